/-
  `Timeframe` as a function of the updates it received: `update` for a `bool` role and `get_ssh_timeframe` are lists of single-slot
  assignments, the four slots of a product evolve independently, and a slot filled from empty holds the extremum of the versions
  offered to it, a function of their set.
-/
import SshAudit.Model.Compat
import SshAudit.Lemmas.Version
import SshAudit.Lemmas.Report
namespace SshAudit
namespace Compat
open Version Text

theorem strLt_asymm (a b : Str) (h : strLt a b = true) : strLt b a = false :=
  strLt_strictTotal.asymm h

def slotAt (tf : Timeframe) (p : Str) (pos : Nat) : Option Str := (tfGet tf p).getD pos none

/-- true of every time frame the code builds -/
def Wf (tf : Timeframe) : Prop := ∀ kv ∈ tf, kv.2.length = 4

theorem wf_nil : Wf [] := by intro kv h; cases h

/-- the body of the second loop of `_update` for one `(product, version)` pair -/
def setSlot (tf : Timeframe) (p : Str) (pos : Nat) (v : Str) : Timeframe :=
  let tf' := if tfContains tf p then tf else tf ++ [(p, none4)]
  let slots := tfGet tf' p
  dictSet tf' p (slots.set pos (slotStep pos (slots.getD pos none) v))

theorem find?_dictSet {β : Type} (d : List (Str × β)) (k : Str) (v : β) (q : Str) :
    ((dictSet d k v).find? (·.1 = q)).map (·.2) = if q = k then some v else (d.find? (·.1 = q)).map (·.2) := by
  fun_cases dictSet d k v
  · next hk =>
    -- the map changes no key, so the same entry is found
    rw [find?_map_comm _ _ (fun kv => by split <;> rfl)]
    cases hq : d.find? (·.1 = q) with
    | none =>
      obtain ⟨x, hx, hxk⟩ := List.any_eq_true.mp hk
      rw [if_neg fun e : q = k => List.find?_eq_none.mp hq x hx (e ▸ hxk)]
      rfl
    | some kv =>
      have e := List.find?_some hq
      simp only [decide_eq_true_eq] at e
      simp only [Option.map_some, e]
      split <;> rfl
  · next hk =>
    have hn : d.find? (·.1 = k) = none := List.find?_eq_none.mpr fun x hx hq => hk (List.any_eq_true.mpr ⟨x, hx, hq⟩)
    rw [List.find?_append]
    by_cases e : q = k
    · subst e
      simp [hn]
    · simp [e, Ne.symm e]

theorem tfGet_eq (tf : Timeframe) (q : Str) : tfGet tf q = ((tf.find? (·.1 = q)).map (·.2)).getD none4 := by
  unfold tfGet
  cases tf.find? (·.1 = q) <;> rfl

theorem any_key_eq {β : Type} (l : List (Str × β)) (q : Str) : l.any (fun kv => decide (kv.1 = q)) = ((l.find? (·.1 = q)).map (·.2)).isSome := by
  rw [Option.isSome_map, Bool.eq_iff_iff, List.find?_isSome, List.any_eq_true]

theorem tfContains_eq (tf : Timeframe) (q : Str) : tfContains tf q = ((tf.find? (·.1 = q)).map (·.2)).isSome :=
  any_key_eq tf q

theorem tfGet_not_contained (tf : Timeframe) (p : Str) (h : tfContains tf p = false) : tfGet tf p = none4 := by
  rw [tfContains_eq, Option.isSome_eq_false_iff, Option.isNone_iff_eq_none] at h
  rw [tfGet_eq, h]
  rfl

theorem eq_or_mem_of_mem_dictSet {β : Type} {d : List (Str × β)} {k : Str} {v : β} {x : Str × β} : x ∈ dictSet d k v → x = (k, v) ∨ x ∈ d := by
  fun_cases dictSet d k v
  · intro h
    obtain ⟨y, hy, e⟩ := List.mem_map.mp h
    split at e
    · next hk => exact Or.inl (by rw [← e, hk])
    · exact Or.inr (e ▸ hy)
  · intro h
    exact (List.mem_append.mp h).symm.imp_left List.mem_singleton.mp

theorem keys_dictSet {β : Type} (d : List (Str × β)) (k : Str) (v : β) (p : Str) :
    (dictSet d k v).any (fun kv => decide (kv.1 = p)) = (d.any (fun kv => decide (kv.1 = p)) || decide (k = p)) := by
  rw [any_key_eq, any_key_eq, find?_dictSet]
  by_cases e : p = k
  · simp [e]
  · have : ¬ k = p := fun e' => e e'.symm
    simp [e, this]

/-- `if product not in storage: storage[product] = [None] * 4` is an assignment of what a reading gives anyway -/
theorem tfGet_ensure (tf : Timeframe) (p q : Str) :
    tfGet (if tfContains tf p then tf else tf ++ [(p, none4)]) q = tfGet tf q := by
  split
  · rfl
  · next h =>
    have hd : tf ++ [(p, none4)] = dictSet tf p none4 := (if_neg h).symm
    rw [hd, tfGet_eq, find?_dictSet]
    split
    · next e => rw [e, tfGet_not_contained tf p (Bool.not_eq_true _ ▸ h)]; rfl
    · exact (tfGet_eq tf q).symm

theorem tfGet_setSlot (tf : Timeframe) (p : Str) (pos : Nat) (v : Str) (q : Str) :
    tfGet (setSlot tf p pos v) q =
      if q = p then (tfGet tf p).set pos (slotStep pos ((tfGet tf p).getD pos none) v) else tfGet tf q := by
  unfold setSlot
  rw [tfGet_eq, find?_dictSet]
  split
  · rw [tfGet_ensure]; rfl
  · rw [← tfGet_eq, tfGet_ensure]

theorem tfContains_setSlot (tf : Timeframe) (p : Str) (pos : Nat) (v : Str) (q : Str) :
    tfContains (setSlot tf p pos v) q = (tfContains tf q || decide (p = q)) := by
  unfold setSlot tfContains
  rw [keys_dictSet]
  split
  · rfl
  · simp

theorem tfGet_length (tf : Timeframe) (hw : Wf tf) (p : Str) : (tfGet tf p).length = 4 := by
  rw [tfGet_eq]
  cases h : tf.find? (·.1 = p) with
  | none => rfl
  | some kv => exact hw kv (List.mem_of_find?_eq_some h)

theorem dictSet_wf (tf : Timeframe) (hw : Wf tf) (p : Str) (x : List (Option Str)) (hx : x.length = 4) : Wf (dictSet tf p x) := by
  intro kv hkv
  rcases eq_or_mem_of_mem_dictSet hkv with rfl | h
  · exact hx
  · exact hw kv h

theorem wf_setSlot (tf : Timeframe) (hw : Wf tf) (p : Str) (pos : Nat) (v : Str) : Wf (setSlot tf p pos v) := by
  have hw' : Wf (if tfContains tf p then tf else tf ++ [(p, none4)]) := by
    split
    · exact hw
    · next h => exact (if_neg h : dictSet tf p none4 = _) ▸ dictSet_wf tf hw p none4 rfl
  exact dictSet_wf _ hw' p _ (by simp [tfGet_length _ hw' p])

theorem slotAt_setSlot (tf : Timeframe) (hw : Wf tf) (p : Str) (pos : Nat) (hpos : pos < 4) (v : Str) (q : Str) (pos' : Nat) :
    slotAt (setSlot tf p pos v) q pos' =
      if p = q ∧ pos = pos' then slotStep pos (slotAt tf p pos) v else slotAt tf q pos' := by
  simp only [slotAt, tfGet_setSlot, List.getD_eq_getElem?_getD]
  by_cases hq : p = q
  · subst hq
    simp only [if_true, true_and, List.getElem?_set, tfGet_length tf hw p, hpos]
    split <;> rfl
  · rw [if_neg (Ne.symm hq), if_neg fun h => hq h.1]

/-- `(product, slot, version)`: one assignment of `_update` -/
abbrev Upd := Str × Nat × Str

def applyAll (tf : Timeframe) (us : List Upd) : Timeframe := us.foldl (fun tf u => setSlot tf u.1 u.2.1 u.2.2) tf

/-- the versions offered to slot `pos` of product `p`, in order -/
def picks (us : List Upd) (p : Str) (pos : Nat) : List Str :=
  (us.filter (fun u => decide (u.1 = p) && decide (u.2.1 = pos))).map (·.2.2)

theorem applyAll_nil (tf : Timeframe) : applyAll tf [] = tf := rfl
theorem applyAll_cons (tf : Timeframe) (u : Upd) (us : List Upd) :
    applyAll tf (u :: us) = applyAll (setSlot tf u.1 u.2.1 u.2.2) us := rfl
theorem applyAll_append (tf : Timeframe) (us vs : List Upd) : applyAll tf (us ++ vs) = applyAll (applyAll tf us) vs := by
  simp [applyAll, List.foldl_append]

theorem picks_append (us vs : List Upd) (p : Str) (pos : Nat) : picks (us ++ vs) p pos = picks us p pos ++ picks vs p pos := by
  simp [picks]

theorem mem_picks (us : List Upd) (p : Str) (pos : Nat) (v : Str) : v ∈ picks us p pos ↔ (p, pos, v) ∈ us := by
  simp only [picks, List.mem_map, List.mem_filter, Bool.and_eq_true, decide_eq_true_eq]
  constructor
  · rintro ⟨⟨a, b, c⟩, ⟨h, rfl, rfl⟩, rfl⟩
    exact h
  · exact fun h => ⟨(p, pos, v), ⟨h, rfl, rfl⟩, rfl⟩

theorem picks_eq_nil (us : List Upd) (p : Str) (pos : Nat) (h : ∀ v, (p, pos, v) ∉ us) : picks us p pos = [] := by
  apply List.eq_nil_iff_forall_not_mem.mpr
  intro v hv
  exact h v ((mem_picks us p pos v).mp hv)

theorem applyAll_wf (tf : Timeframe) (hw : Wf tf) (us : List Upd) : Wf (applyAll tf us) := by
  induction us generalizing tf with
  | nil => exact hw
  | cons u us ih => exact ih _ (wf_setSlot tf hw _ _ _)

theorem slotAt_applyAll (tf : Timeframe) (hw : Wf tf) (us : List Upd) (hpos : ∀ u ∈ us, u.2.1 < 4) (p : Str) (pos : Nat) :
    slotAt (applyAll tf us) p pos = (picks us p pos).foldl (slotStep pos) (slotAt tf p pos) := by
  induction us generalizing tf with
  | nil => rfl
  | cons u us ih =>
    rw [applyAll_cons, ih _ (wf_setSlot tf hw _ _ _) (fun x hx => hpos x (by simp [hx])),
      slotAt_setSlot tf hw _ _ (hpos u (by simp))]
    simp only [picks, List.filter_cons, Bool.and_eq_true, decide_eq_true_eq]
    split
    · next h => rw [h.1, h.2]; rfl
    · rfl

theorem contains_applyAll (tf : Timeframe) (us : List Upd) (p : Str) :
    tfContains (applyAll tf us) p = (tfContains tf p || us.any (fun u => decide (u.1 = p))) := by
  induction us generalizing tf with
  | nil => simp [applyAll]
  | cons u us ih =>
    rw [applyAll_cons, ih, tfContains_setSlot]
    simp [Bool.or_assoc]

theorem foldl_applyAll {β : Type} (l : List β) (f : β → List Upd) (tf : Timeframe) :
    l.foldl (fun tf x => applyAll tf (f x)) tf = applyAll tf (l.flatMap f) := by
  induction l generalizing tf with
  | nil => rfl
  | cons x xs ih => simp [List.foldl_cons, ih, applyAll_append]

/-- the assignments of `_update(versions, pos)` -/
def upd1 (v : Option Str) (pos : Nat) : List Upd := (collectVersions v pos).map (fun pv => (pv.1, pos, pv.2))

theorem tfUpdate1_eq (tf : Timeframe) (v : Option Str) (pos : Nat) : tfUpdate1 tf v pos = applyAll tf (upd1 v pos) := by
  simp only [tfUpdate1, applyAll, upd1, List.foldl_map]
  rfl

/-- the assignments of `update(versions, for_server)` for a `bool` role -/
def updatesOf (vs : List (Option Str)) (forServer : Bool) : List Upd :=
  match forServer, vs with
  | true, [] => []
  | true, [a] => upd1 a 0
  | true, a :: b :: _ => upd1 a 0 ++ upd1 b 1
  | false, [] => []
  | false, [a] => upd1 a 2
  | false, [a, b] => upd1 a 2 ++ upd1 b 3
  | false, a :: _ :: c :: _ => upd1 a 2 ++ upd1 c 3

theorem updatesOf_nil (fs : Bool) : updatesOf [] fs = [] := by cases fs <;> rfl

theorem tfUpdate_eq (tf : Timeframe) (vs : List (Option Str)) (forServer : Bool) :
    tfUpdate tf vs (some forServer) = applyAll tf (updatesOf vs forServer) := by
  -- the loop of `update` runs at most three times: in each case both sides evaluate to the same `_update` calls
  have two : ∀ a b i j, tfUpdate1 (tfUpdate1 tf a i) b j = applyAll tf (upd1 a i ++ upd1 b j) := fun a b i j => by
    rw [tfUpdate1_eq, tfUpdate1_eq, applyAll_append]
  cases forServer
  · match vs with
    | [] => rfl
    | [a] => exact tfUpdate1_eq tf a 2
    | [a, b] => exact two a b 2 3
    | a :: _ :: c :: _ => exact two a c 2 3
  · match vs with
    | [] => rfl
    | [a] => exact tfUpdate1_eq tf a 0
    | [a, b] => exact two a b 0 1
    | a :: b :: _ :: _ => exact two a b 0 1

theorem mem_upd1 (v : Option Str) (pos : Nat) (u : Upd) : u ∈ upd1 v pos ↔ u.2.1 = pos ∧ (u.1, u.2.2) ∈ collectVersions v pos := by
  simp only [upd1, List.mem_map]
  constructor
  · rintro ⟨pv, h, e⟩
    subst e
    exact ⟨rfl, h⟩
  · rintro ⟨e, h⟩
    obtain ⟨a, b, c⟩ := u
    simp only at e h
    subst e
    exact ⟨(a, c), h, rfl⟩

theorem mem_updatesOf {vs : List (Option Str)} {fs : Bool} {u : Upd} (h : u ∈ updatesOf vs fs) :
    ∃ a ∈ vs, u ∈ upd1 a u.2.1 ∧ (u.2.1 = (if fs then 0 else 2) ∨ u.2.1 = (if fs then 1 else 3)) := by
  have one : ∀ a pos, u ∈ upd1 a pos → u ∈ upd1 a u.2.1 ∧ u.2.1 = pos := fun a pos h =>
    have e := ((mem_upd1 a pos u).mp h).1
    ⟨e ▸ h, e⟩
  fun_cases updatesOf vs fs
  · cases h
  · next a => exact ⟨a, by simp, (one a 0 h).1, Or.inl (one a 0 h).2⟩
  · next a b _ =>
    rcases List.mem_append.mp h with h | h
    · exact ⟨a, by simp, (one a 0 h).1, Or.inl (one a 0 h).2⟩
    · exact ⟨b, by simp, (one b 1 h).1, Or.inr (one b 1 h).2⟩
  · cases h
  · next a => exact ⟨a, by simp, (one a 2 h).1, Or.inl (one a 2 h).2⟩
  · next a b =>
    rcases List.mem_append.mp h with h | h
    · exact ⟨a, by simp, (one a 2 h).1, Or.inl (one a 2 h).2⟩
    · exact ⟨b, by simp, (one b 3 h).1, Or.inr (one b 3 h).2⟩
  · next a _ c _ =>
    rcases List.mem_append.mp h with h | h
    · exact ⟨a, by simp, (one a 2 h).1, Or.inl (one a 2 h).2⟩
    · exact ⟨c, by simp, (one c 3 h).1, Or.inr (one c 3 h).2⟩

/-- the assignments one advertised name causes (`alg_desc is None`: none) -/
def nameUpdates (db : DB) (forServer : Bool) (cat name : Str) : List Upd :=
  match DBm.lookup db cat name with
  | none => []
  | some e => updatesOf (DBm.versions e) forServer

/-- every assignment of `get_ssh_timeframe(for_server)`, in the order the code performs them -/
def allUpdates (db : DB) (items : List (Str × List Str)) (forServer : Bool) : List Upd :=
  items.flatMap (fun it => it.2.flatMap (nameUpdates db forServer it.1))

theorem allUpdates_append (db : DB) (items more : List (Str × List Str)) (fs : Bool) :
    allUpdates db (items ++ more) fs = allUpdates db items fs ++ allUpdates db more fs := by
  simp [allUpdates]

theorem allUpdates_single (db : DB) (c n : Str) (fs : Bool) : allUpdates db [(c, [n])] fs = nameUpdates db fs c n := by
  simp [allUpdates]

theorem sshTimeframe_eq (tf : Timeframe) (db : DB) (items : List (Str × List Str)) (forServer : Bool) :
    sshTimeframe tf db items (some forServer) = applyAll tf (allUpdates db items forServer) := by
  unfold sshTimeframe allUpdates
  simp only [← foldl_applyAll]
  congr 1
  funext tf it
  congr 1
  funext tf name
  unfold nameUpdates
  cases DBm.lookup db it.1 name with
  | none => rfl
  | some e => exact tfUpdate_eq _ _ _

theorem allUpdates_pos (db : DB) (items : List (Str × List Str)) (forServer : Bool) :
    ∀ u ∈ allUpdates db items forServer, u.2.1 < 4 := by
  intro u hu
  simp only [allUpdates, List.mem_flatMap] at hu
  obtain ⟨it, _, name, _, h⟩ := hu
  unfold nameUpdates at h
  split at h
  · cases h
  · obtain ⟨_, _, _, hp⟩ := mem_updatesOf h
    cases forServer <;> simp only [Bool.false_eq_true, if_false, if_true] at hp <;> omega

def slotFold (pos : Nat) (vs : List Str) : Option Str := vs.foldl (slotStep pos) none

theorem slotFold_eq_none (pos : Nat) (vs : List Str) : slotFold pos vs = none ↔ vs = [] := by
  cases vs with
  | nil => exact ⟨fun _ => rfl, fun _ => rfl⟩
  | cons x xs =>
    obtain ⟨r, hr, _⟩ := foldl_slotStep_some pos x xs
    have e : slotFold pos (x :: xs) = some r := hr
    simp [e]

theorem slotFold_some {pos : Nat} {vs : List Str} {r : Str} (h : slotFold pos vs = some r) :
    r ∈ vs ∧ ∀ v ∈ vs, beats pos v r = false := by
  cases vs with
  | nil => cases h
  | cons x xs =>
    obtain ⟨r', hr, hmem, hall⟩ := foldl_slotStep_some pos x xs
    have e : slotFold pos (x :: xs) = some r' := hr
    cases e.symm.trans h
    exact ⟨hmem, hall⟩

theorem slotFold_unique (pos : Nat) (vs : List Str) (r : Str) (hm : r ∈ vs) (ha : ∀ v ∈ vs, beats pos v r = false) :
    slotFold pos vs = some r := by
  cases hl : slotFold pos vs with
  | none => rw [(slotFold_eq_none pos vs).mp hl] at hm; cases hm
  | some r' =>
    obtain ⟨hm', ha'⟩ := slotFold_some hl
    rw [(beats_strictTotal pos).tri r' r (ha' r hm) (ha r' hm')]

theorem slotFold_congr (pos : Nat) (vs ws : List Str) (h : ∀ v, v ∈ vs ↔ v ∈ ws) : slotFold pos vs = slotFold pos ws := by
  cases h1 : slotFold pos vs with
  | none =>
    rw [(slotFold_eq_none pos vs).mp h1] at h
    rw [List.eq_nil_iff_forall_not_mem.mpr fun v hv => List.not_mem_nil ((h v).mpr hv)]
    rfl
  | some r =>
    obtain ⟨hm, ha⟩ := slotFold_some h1
    exact (slotFold_unique pos ws r ((h r).mp hm) fun v hv => ha v ((h v).mpr hv)).symm

theorem slotFold_mono (pos : Nat) (vs ws : List Str) (h : ∀ v ∈ vs, v ∈ ws) (a : Str) (ha : slotFold pos vs = some a) :
    ∃ a', slotFold pos ws = some a' ∧ beats pos a a' = false := by
  have hm := h a (slotFold_some ha).1
  cases hl : slotFold pos ws with
  | none => rw [(slotFold_eq_none pos ws).mp hl] at hm; cases hm
  | some a' => exact ⟨a', rfl, (slotFold_some hl).2 a hm⟩

theorem slotAt_not_contained (tf : Timeframe) (p : Str) (pos : Nat) (h : tfContains tf p = false) : slotAt tf p pos = none := by
  unfold slotAt
  rw [tfGet_not_contained tf p h]
  unfold none4
  -- each of the four entries is `none`, and so is the default past them
  match pos with
  | 0 | 1 | 2 | 3 => rfl
  | n + 4 => rfl

theorem slotAt_nil (p : Str) (pos : Nat) : slotAt [] p pos = none := slotAt_not_contained [] p pos rfl

/-- the descriptor names a version and is not a client-only (`…C`) descriptor in a server slot -/
def eligible (pos : Nat) (d : Str) : Bool := !((getSshVersion d).2.1 = [] || ((getSshVersion d).2.2 && decide (pos < 2)))

theorem eligible_iff (pos : Nat) (d : Str) :
    eligible pos d = true ↔ (getSshVersion d).2.1 ≠ [] ∧ ((getSshVersion d).2.2 && decide (pos < 2)) = false := by
  simp only [eligible, Bool.not_eq_true', Bool.or_eq_false_iff, decide_eq_false_iff_not]

/-- one round of the first loop of `_update` -/
def collectStep (pos : Nat) (acc : List (Str × Str)) (v : Str) : List (Str × Str) :=
  let (prod, ver, cli) := getSshVersion v
  if ver = [] || (cli && decide (pos < 2)) || (!cli && decide (pos > 1) && acc.any (·.1 = prod)) then acc
  else dictSet acc prod ver

theorem collectVersions_eq (v : Option Str) (pos : Nat) :
    collectVersions v pos = (splitOn ',' (v.getD [])).foldl (collectStep pos) [] := rfl

theorem collectStep_eq (pos : Nat) (acc : List (Str × Str)) (d : Str) :
    collectStep pos acc d =
      if !eligible pos d || (!(getSshVersion d).2.2 && decide (pos > 1) && acc.any (·.1 = (getSshVersion d).1)) then acc
      else dictSet acc (getSshVersion d).1 (getSshVersion d).2.1 := by
  simp only [collectStep, eligible, Bool.not_not]

theorem eq_true_of_not_not_or {a b : Bool} (h : ¬ (!a || b) = true) : a = true := by
  cases a
  · exact absurd rfl h
  · rfl

theorem collectStep_sound (pos : Nat) (acc : List (Str × Str)) (d : Str) (x : Str × Str) (h : x ∈ collectStep pos acc d) :
    x ∈ acc ∨ (eligible pos d = true ∧ (getSshVersion d).1 = x.1 ∧ (getSshVersion d).2.1 = x.2) := by
  rw [collectStep_eq] at h
  split at h
  · exact Or.inl h
  · next hc =>
    rcases eq_or_mem_of_mem_dictSet h with e | e
    · exact Or.inr ⟨eq_true_of_not_not_or hc, by rw [e], by rw [e]⟩
    · exact Or.inl e

theorem collectStep_keys (pos : Nat) (acc : List (Str × Str)) (d p : Str) :
    (collectStep pos acc d).any (fun kv => decide (kv.1 = p)) =
      (acc.any (fun kv => decide (kv.1 = p)) || (eligible pos d && decide ((getSshVersion d).1 = p))) := by
  rw [collectStep_eq]
  split
  · next hc =>
    rcases Bool.or_eq_true_iff.mp hc with hc | hc
    · rw [Bool.not_eq_eq_eq_not.mp hc, Bool.not_true, Bool.false_and, Bool.or_false]
    · -- the key is there already
      simp only [Bool.and_eq_true] at hc
      by_cases hp : (getSshVersion d).1 = p
      · have : (acc.any fun kv => decide (kv.1 = p)) = true := by rw [← hp]; exact hc.2
        rw [this, Bool.true_or]
      · rw [decide_eq_false hp, Bool.and_false, Bool.or_false]
  · next hc => rw [keys_dictSet, eq_true_of_not_not_or hc, Bool.true_and]

theorem foldl_collectStep_sound (pos : Nat) (acc : List (Str × Str)) (ds : List Str) (x : Str × Str)
    (h : x ∈ ds.foldl (collectStep pos) acc) :
    x ∈ acc ∨ ∃ d ∈ ds, eligible pos d = true ∧ (getSshVersion d).1 = x.1 ∧ (getSshVersion d).2.1 = x.2 := by
  induction ds generalizing acc with
  | nil => exact Or.inl h
  | cons d ds ih =>
    rcases ih _ h with h' | ⟨d', hd', r⟩
    · rcases collectStep_sound pos acc d x h' with h' | r
      · exact Or.inl h'
      · exact Or.inr ⟨d, List.mem_cons_self .., r⟩
    · exact Or.inr ⟨d', List.mem_cons_of_mem _ hd', r⟩

theorem foldl_collectStep_keys (pos : Nat) (acc : List (Str × Str)) (ds : List Str) (p : Str) :
    (ds.foldl (collectStep pos) acc).any (fun kv => decide (kv.1 = p)) =
      (acc.any (fun kv => decide (kv.1 = p)) || ds.any (fun d => eligible pos d && decide ((getSshVersion d).1 = p))) := by
  induction ds generalizing acc with
  | nil => simp
  | cons d ds ih => rw [List.foldl_cons, ih, collectStep_keys, List.any_cons, Bool.or_assoc]

theorem collect_sound (v : Option Str) (pos : Nat) (p ver : Str) (h : (p, ver) ∈ collectVersions v pos) :
    ∃ d ∈ splitOn ',' (v.getD []), eligible pos d = true ∧ (getSshVersion d).1 = p ∧ (getSshVersion d).2.1 = ver := by
  rw [collectVersions_eq] at h
  rcases foldl_collectStep_sound pos [] _ _ h with h | h
  · cases h
  · exact h

/-- exact for products only: which of several eligible versions of one product is stored is not stated -/
theorem collect_products (v : Option Str) (pos : Nat) (p : Str) :
    (collectVersions v pos).any (fun kv => decide (kv.1 = p)) =
      (splitOn ',' (v.getD [])).any (fun d => eligible pos d && decide ((getSshVersion d).1 = p)) := by
  rw [collectVersions_eq, foldl_collectStep_keys]
  simp

/-- `versions` reads slot 0; the edits append to slots 2 and 3 -/
theorem versions_appendAt (e : Entry) (i k : Nat) (t : Str) (hi : i ≠ 0) :
    DBm.versions { e with desc := Report.appendAt i k t e.desc } = DBm.versions e := by
  simp only [DBm.versions, DBm.slot]
  rw [Report.getD_appendAt, if_neg fun h => hi h.1.symm]

theorem postProcess_versions (db : DB) (peer : Report.Peer) (client : Bool) (sw : Option Str) (rate : Str) (c n : Str) :
    (DBm.lookup (Report.postProcess db peer client sw rate).db c n).map DBm.versions = (DBm.lookup db c n).map DBm.versions :=
  Report.lookup_postProcess_map DBm.versions (fun e i k t hi => versions_appendAt e i k t (by omega)) db peer client sw rate c n

end Compat
end SshAudit
