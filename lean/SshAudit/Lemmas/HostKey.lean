/- The host-key model (C11).  The parsers of `kexdh.py` read back what the RFC encoders `Spec.*` write: one lemma per layout,
   from `parseHostKey_fields` (host keys) and `caInfo_fields` (signature keys); the size rules of `perform_test` in closed form
   with the limits as variables; the loop through `step_of_active` and the invariant `ScanInv`; the text and JSON fingerprint
   lists as sorted views of one dictionary.
   The reading of the closed forms as severities (`sev`, the thresholds, that a larger key is never rated worse) is in Props/C11. -/
import SshAudit.Model.HostKey
import SshAudit.Lemmas.Mpint
import SshAudit.Lemmas.Report
import SshAudit.Lemmas.Text
namespace SshAudit.HostKey
open SshAudit SshAudit.Wire

/-- the digits by position: `toBE` appends each digit at the end, which is quadratic to evaluate; this form is linear -/
theorem toBE_eq_map (m L : Nat) : toBE m L = (List.range L).reverse.map (fun i => m / 256 ^ i % 256) := by
  induction L with
  | zero => rfl
  | succ L ih => rw [toBE_cons, ih, List.range_succ, List.reverse_append, List.reverse_singleton, List.singleton_append, List.map_cons]

theorem u32_length (v : Nat) : (Spec.u32 v).length = 4 := field_length v 4
theorem u64_length (v : Nat) : (Spec.u64 v).length = 8 := field_length v 8

theorem u32_value (v : Nat) (h : v < 2 ^ 32) : ofBE (natsOf (Spec.u32 v)) = v := ofBE_field (L := 4) h

theorem getBytes_sstr {b rest : Bytes} (h : b.length < 2 ^ 32) :
    getBytes (Spec.sstr b ++ rest) = .ok (b, b.length, rest) := by
  obtain ⟨h1, h2, h3⟩ := field_prefix (u32_length b.length) (b ++ rest)
  unfold getBytes Spec.sstr
  rw [List.append_assoc, if_neg h1]
  simp only [h2, h3, u32_value _ h, List.take_left' rfl, List.drop_left' rfl]

/-- a step that succeeds hands its value to the rest of the parser; as a `↓` simp lemma it resolves the step before the rest is visited -/
theorem bind_of_eq_ok {ε α β : Type} {x : Except ε α} {a : α} (h : x = .ok a) (k : α → Except ε β) : (x >>= k) = k a := by
  rw [h, ok_bind]

theorem getBytes_sstr_nil {b : Bytes} (h : b.length < 2 ^ 32) : getBytes (Spec.sstr b) = .ok (b, b.length, []) := by
  have := getBytes_sstr (rest := []) h
  rwa [List.append_nil] at this

theorem drop_u64 (v : Nat) (rest : Bytes) : (Spec.u64 v ++ rest).drop 8 = rest := (field_prefix (u64_length v) rest).2.2
theorem drop_u64_u64 (v w : Nat) (rest : Bytes) : (Spec.u64 v ++ (Spec.u64 w ++ rest)).drop 16 = rest := by
  rw [show 16 = 8 + 8 from rfl, ← List.drop_drop, drop_u64, drop_u64]

theorem take_u32 (v : Nat) (rest : Bytes) : (Spec.u32 v ++ rest).take 4 = Spec.u32 v := (field_prefix (u32_length v) rest).2.1
theorem drop_u32 (v : Nat) (rest : Bytes) : (Spec.u32 v ++ rest).drop 4 = rest := (field_prefix (u32_length v) rest).2.2

theorem hexInt_ne_nil (b : Bytes) (h : b ≠ []) : hexInt b = .ok (ofBE (natsOf b)) := by
  unfold hexInt
  cases b with
  | nil => exact absurd rfl h
  | cons a t => rfl

theorem hexInt_u32 (v : Nat) (h : v < 2 ^ 32) : hexInt (Spec.u32 v) = .ok v := by
  rw [hexInt_ne_nil _ (List.ne_nil_of_length_pos (by rw [u32_length]; decide)), u32_value v h]

/-- the magnitude bytes of `mpint n` -/
def mpBody (n : Nat) : Bytes := bytesOf (toBE n (bitLen n / 8 + 1))

theorem mpBody_length (n : Nat) : (mpBody n).length = bitLen n / 8 + 1 := field_length _ _

theorem mpBody_length_lt (n : Nat) (h : bitLen n / 8 + 1 < 2 ^ 32) : (mpBody n).length < 2 ^ 32 := by rw [mpBody_length]; exact h

theorem mpBody_ne_nil (n : Nat) : mpBody n ≠ [] :=
  List.ne_nil_of_length_pos (by rw [mpBody_length]; exact Nat.succ_pos _)

theorem mpint_pos (n : Nat) (h : 0 < n) : Spec.mpint n = Spec.sstr (mpBody n) := by
  unfold Spec.mpint mpBody
  rw [if_neg (by omega)]

theorem mpBody_value (n : Nat) : ofBE (natsOf (mpBody n)) = n :=
  ofBE_field (by have := lt_half_pow_bitLen n; rw [Nat.pow_succ]; omega)

/-- the first magnitude byte of `mpint n` has the sign bit clear: a positive number in two's complement (RFC 4251) -/
theorem mpBody_head (n : Nat) : ∃ b t, natsOf (mpBody n) = b :: t ∧ b < 128 := by
  unfold mpBody
  rw [natsOf_bytesOf _ (toBE_lt _ _), toBE_cons]
  exact ⟨_, _, rfl, Nat.lt_of_le_of_lt (Nat.mod_le _ _) ((Nat.div_lt_iff_lt_mul (Nat.pow_pos (by decide))).mpr (lt_half_pow_bitLen n))⟩

theorem Parsed.size_of_nBits_pos {p : Parsed} (h : 0 < p.nBits) : p.size = p.nBits := if_pos h

theorem adjust_eq (n : Nat) : adjustKeySize n = if n % 2 = 0 then n * 8 else n * 8 - 8 := by
  unfold adjustKeySize
  simp only [Nat.mul_div_cancel _ (by decide : 0 < 8), ne_eq, ite_not]

theorem adjust_even (n : Nat) (h : n % 2 = 0) : adjustKeySize n = n * 8 := by
  rw [adjust_eq, if_pos h]

theorem adjust_odd (n : Nat) (h : n % 2 = 1) : adjustKeySize n = n * 8 - 8 := by
  rw [adjust_eq, if_neg (by omega)]

theorem hexInt_mpBody (n : Nat) : hexInt (mpBody n) = .ok n := by
  rw [hexInt_ne_nil _ (mpBody_ne_nil n), mpBody_value]

/-- the sizes `__parse_ca_key` takes from the last field `n` (declared length `nLen`) of a signature key of type `caType` -/
def caSizes (caType : Str) (n : Bytes) (nLen : Nat) : Except Exn (Str × Nat × Nat) := do
  let bits ← (if caType = tRsa ∧ nLen > 0 then do let v ← hexInt n; pure (bitLen v) else pure 0)
  if Text.startsWith caType pEcdsa ∧ nLen > 0 then
    match n with
    | [] => .error .index
    | b :: _ => if b = 4 then pure (caType, (nLen - 1) / 2, bits) else pure (caType, nLen, bits)
  else pure (caType, nLen, bits)

/-- the part of `__parse_ca_key` that looks inside the signature key -/
def caInfo (caKey : Bytes) : Except Exn (Str × Nat × Nat) := do
  let (tb, _, c) ← getBytes caKey
  let caType ← asciiDecode tb
  if caType = tEd25519 then pure (caType, 32, 0)
  else do
    let (_, _, c) ← getBytes c
    let (n, nLen, _) ← getBytes c
    caSizes caType n nLen

/-- everything of a certificate after the certified key's own fields -/
def certTail (certType : Nat) (f : Spec.CertFields) (ca : Bytes) : Bytes :=
  Spec.u64 f.serial ++ (Spec.u32 certType ++ (Spec.sstr f.keyId ++ (Spec.sstr f.principals ++
    (Spec.u64 f.validAfter ++ (Spec.u64 f.validBefore ++ (Spec.sstr f.crit ++ (Spec.sstr f.ext ++ (Spec.sstr f.reserved ++ (Spec.sstr ca ++ Spec.sstr f.sig)))))))))

theorem certBlob_eq (kind : Str) (pub : Bytes) (ct : Nat) (f : Spec.CertFields) (ca : Bytes) :
    Spec.certBlob kind pub ct f ca = Spec.sstr (Spec.ascii kind) ++ (Spec.sstr f.nonce ++ (pub ++ certTail ct f ca)) := rfl

theorem parseCaKey_tail (f : Spec.CertFields) (ca : Bytes) (hf : f.fits) (hca : ca.length < 2 ^ 32) :
    parseCaKey (certTail 2 f ca) = caInfo ca := by
  obtain ⟨_, h2, h3, h4, h5, h6⟩ := hf
  unfold parseCaKey certTail
  simp only [drop_u64, take_u32, drop_u32, hexInt_u32 2 (by decide), ok_bind, if_true, drop_u64_u64,
    ↓bind_of_eq_ok (getBytes_sstr h2), ↓bind_of_eq_ok (getBytes_sstr h3), ↓bind_of_eq_ok (getBytes_sstr h4),
    ↓bind_of_eq_ok (getBytes_sstr h5), ↓bind_of_eq_ok (getBytes_sstr h6), ↓bind_of_eq_ok (getBytes_sstr hca)]
  rfl

theorem parseCaKey_tail_other (ct : Nat) (hct : ct ≠ 2) (hlt : ct < 2 ^ 32) (f : Spec.CertFields) (ca : Bytes) :
    parseCaKey (certTail ct f ca) = .ok ([], 0, 0) := by
  unfold parseCaKey certTail
  dsimp only
  -- the certificate type is read and the rest is not looked at
  rw [drop_u64, take_u32, drop_u32, hexInt_u32 ct hlt]
  exact if_neg hct

/-- an RSA key the encoders can write: positive numbers whose `mpint` bodies fit a 32-bit length field -/
def RsaOk (e n : Nat) : Prop := 0 < e ∧ 0 < n ∧ bitLen e / 8 + 1 < 2 ^ 32 ∧ bitLen n / 8 + 1 < 2 ^ 32

/-- what `parseHostKey` asks of a key-type string, with the answers as parameters: its prefix tests and comparisons, in the order in
    which the parser makes them -/
structure KindFacts (ty : Str) (isRsaCert isEdCert isEd25519 isEd448 isSshRsa : Bool) : Prop where
  decodes : asciiDecode (Spec.ascii ty) = .ok ty
  fits : (Spec.ascii ty).length < 2 ^ 32
  rsaCert : Text.startsWith ty pRsaCert = isRsaCert
  edCert : Text.startsWith ty pEdCert = isEdCert
  ed25519 : decide (ty = tEd25519) = isEd25519
  ed448 : decide (ty = tEd448) = isEd448
  sshRsa : Text.startsWith ty pSshRsa = isSshRsa

/-- the fields as one conjunction: an instance is then one evaluation -/
theorem kindFacts_iff {ty : Str} {a b c d e : Bool} : KindFacts ty a b c d e ↔
    asciiDecode (Spec.ascii ty) = .ok ty ∧ (Spec.ascii ty).length < 2 ^ 32 ∧ Text.startsWith ty pRsaCert = a ∧ Text.startsWith ty pEdCert = b ∧
    decide (ty = tEd25519) = c ∧ decide (ty = tEd448) = d ∧ Text.startsWith ty pSshRsa = e :=
  ⟨fun k => ⟨k.1, k.2, k.3, k.4, k.5, k.6, k.7⟩, fun ⟨h1, h2, h3, h4, h5, h6, h7⟩ => ⟨h1, h2, h3, h4, h5, h6, h7⟩⟩

/-- the five key types the encoders write -/
theorem kind_table :
    KindFacts tRsa false false false false true ∧ KindFacts tEd25519 false false true false false ∧
    KindFacts tEd448 false false false true false ∧ KindFacts Spec.rsaCertKind true false false false true ∧
    KindFacts Spec.edCertKind false true false false false := by
  simp only [kindFacts_iff]
  -- `unfold` also reaches the `Decidable` instances of the two comparisons, which `simp only` leaves folded
  unfold Spec.rsaCertKind Spec.edCertKind tRsa tEd25519 tEd448 pRsaCert pEdCert pSshRsa s
  decode_literals
  decide +kernel

theorem rsa_kind : KindFacts tRsa false false false false true := kind_table.1
theorem ed25519_kind : KindFacts tEd25519 false false true false false := kind_table.2.1
theorem ed448_kind : KindFacts tEd448 false false false true false := kind_table.2.2.1
theorem rsaCert_kind : KindFacts Spec.rsaCertKind true false false false true := kind_table.2.2.2.1
theorem edCert_kind : KindFacts Spec.edCertKind false true false false false := kind_table.2.2.2.2

theorem rsa_not_ecdsa : Text.startsWith tRsa pEcdsa = false := by
  simp only [tRsa, pEcdsa, s]
  decode_literals
  decide +kernel

/-- a signature key of three strings, the first a type name other than `ssh-ed25519`: the sizes come from the third -/
theorem caInfo_fields {ty : Str} (hd : asciiDecode (Spec.ascii ty) = .ok ty) (hf : (Spec.ascii ty).length < 2 ^ 32) (hne : ty ≠ tEd25519)
    (a b : Bytes) (ha : a.length < 2 ^ 32) (hb : b.length < 2 ^ 32) :
    caInfo (Spec.sstr (Spec.ascii ty) ++ Spec.sstr a ++ Spec.sstr b) = caSizes ty b b.length := by
  unfold caInfo
  simp only [List.append_assoc, getBytes_sstr hf, ok_bind, hd, hne, if_false, getBytes_sstr ha, getBytes_sstr_nil hb]

theorem caInfo_rsa (e n : Nat) (h : RsaOk e n) : caInfo (Spec.rsaBlob e n) = .ok (tRsa, bitLen n / 8 + 1, bitLen n) := by
  obtain ⟨he, hn, hel, hnl⟩ := h
  rw [Spec.rsaBlob, mpint_pos e he, mpint_pos n hn]
  refine (caInfo_fields rsa_kind.decodes rsa_kind.fits (of_decide_eq_false rsa_kind.ed25519) _ _
    (mpBody_length_lt e hel) (mpBody_length_lt n hnl)).trans ?_
  unfold caSizes
  simp only [rsa_not_ecdsa, Bool.false_eq_true, false_and, ok_bind,
    pure_eq_ok, mpBody_length, show bitLen n / 8 + 1 > 0 from Nat.succ_pos _, and_self, if_true, if_false, hexInt_mpBody]

theorem caInfo_ed25519 (pk : Bytes) : caInfo (Spec.ed25519Blob pk) = .ok (tEd25519, 32, 0) := by
  unfold caInfo Spec.ed25519Blob
  have ha : asciiDecode (Spec.ascii (s "ssh-ed25519")) = .ok tEd25519 := ed25519_kind.decodes
  have hl : (Spec.ascii (s "ssh-ed25519")).length < 2 ^ 32 := ed25519_kind.fits
  simp only [getBytes_sstr hl, ok_bind, ha, if_true, pure_eq_ok]

def curves : List Str := [s "nistp256", s "nistp384", s "nistp521"]

theorem caInfo_ecdsa (curve : Str) (hc : curve ∈ curves) (x y : Bytes) (hl : 1 + (x.length + y.length) < 2 ^ 32) :
    caInfo (Spec.ecdsaBlob curve x y) = .ok (s "ecdsa-sha2-" ++ curve, (x.length + y.length) / 2, 0) := by
  have hfacts : ∀ c ∈ curves, (Spec.ascii (s "ecdsa-sha2-" ++ c)).length < 2 ^ 32 ∧ (Spec.ascii c).length < 2 ^ 32 ∧
      asciiDecode (Spec.ascii (s "ecdsa-sha2-" ++ c)) = .ok (s "ecdsa-sha2-" ++ c) ∧
      ¬ (s "ecdsa-sha2-" ++ c = tEd25519) ∧ Text.startsWith (s "ecdsa-sha2-" ++ c) pEcdsa = true ∧
      ¬ (s "ecdsa-sha2-" ++ c = tRsa) := by
    simp only [curves, tEd25519, tRsa, pEcdsa, s]
    decode_literals
    decide +kernel
  obtain ⟨l1, l2, ha, hne, hp, hnr⟩ := hfacts curve hc
  have hq : ((4 : UInt8) :: (x ++ y)).length < 2 ^ 32 := by rw [List.length_cons, List.length_append, Nat.add_comm]; exact hl
  rw [Spec.ecdsaBlob, caInfo_fields ha l1 hne _ _ l2 hq, caSizes]
  simp only [hnr, false_and, if_false, ok_bind, hp, true_and, pure_eq_ok]
  rw [List.length_cons, List.length_append, if_pos (Nat.succ_pos _), if_pos trivial, Nat.add_sub_cancel]

theorem parseHostKey_fields {ty : Str} {rc ec sr : Bool} (k : KindFacts ty rc ec false false sr) (nonce e n rest : Bytes)
    (hk : nonce.length < 2 ^ 32) (hel : e.length < 2 ^ 32) (hen : e ≠ []) (hnl : n.length < 2 ^ 32) (hnn : n ≠ []) :
    parseHostKey (Spec.sstr (Spec.ascii ty) ++ ((if rc then Spec.sstr nonce else []) ++ (Spec.sstr e ++ (Spec.sstr n ++ rest)))) =
      if rc ∨ ec then
        (parseCaKey rest).map (fun c => { keyType := ty, nLen := n.length, nBits := if sr then bitLen (ofBE (natsOf n)) else 0,
                                          caType := c.1, caNLen := c.2.1, caNBits := c.2.2 })
      else .ok { keyType := ty, nLen := n.length, nBits := if sr then bitLen (ofBE (natsOf n)) else 0,
                 caType := [], caNLen := 0, caNBits := 0 } := by
  unfold parseHostKey
  have h3 : ty ≠ tEd25519 := of_decide_eq_false k.ed25519
  have h4 : ty ≠ tEd448 := of_decide_eq_false k.ed448
  cases rc <;>
  simp only [
    -- every read finds a string the encoder wrote
    getBytes_sstr k.fits, getBytes_sstr hk, getBytes_sstr hel, getBytes_sstr hnl, hexInt_ne_nil e hen, hexInt_ne_nil n hnn,
    -- every test on the type string is answered by a field of `k`
    k.decodes, k.rsaCert, k.edCert, k.sshRsa, h3, h4,
    bind, Except.bind, pure, Except.pure, Bool.false_eq_true, if_false, if_true, List.nil_append, true_or]
  all_goals cases parseCaKey rest <;> rfl

theorem parse_rsa (e n : Nat) (h : RsaOk e n) :
    parseHostKey (Spec.rsaBlob e n) = .ok { keyType := tRsa, nLen := bitLen n / 8 + 1, nBits := bitLen n, caType := [], caNLen := 0, caNBits := 0 } := by
  obtain ⟨he, hn, hel, hnl⟩ := h
  have := parseHostKey_fields rsa_kind [] (mpBody e) (mpBody n) [] (Nat.two_pow_pos 32) (mpBody_length_lt e hel) (mpBody_ne_nil e) (mpBody_length_lt n hnl) (mpBody_ne_nil n)
  rw [if_neg Bool.false_ne_true, if_neg (by decide), if_pos rfl, List.nil_append, mpBody_value, mpBody_length, List.append_nil] at this
  rw [Spec.rsaBlob, mpint_pos e he, mpint_pos n hn, List.append_assoc]
  exact this

theorem parseHostKey_fixed {ty : Str} {e25 e448 sr : Bool} (k : KindFacts ty false false e25 e448 sr) (h : (e25 || e448) = true)
    (pk : Bytes) (hne : pk ≠ []) (hpl : pk.length < 2 ^ 32) :
    parseHostKey (Spec.sstr (Spec.ascii ty) ++ Spec.sstr pk) =
      .ok { keyType := ty, nLen := if e25 then 32 else 57, nBits := 0, caType := [], caNLen := 0, caNBits := 0 } := by
  unfold parseHostKey
  simp only [↓bind_of_eq_ok (getBytes_sstr k.fits), ↓bind_of_eq_ok k.decodes, ↓bind_of_eq_ok (getBytes_sstr_nil hpl),
    ↓bind_of_eq_ok (hexInt_ne_nil _ hne), k.rsaCert, k.edCert, Bool.false_eq_true, if_false, or_self, ok_bind, pure_eq_ok]
  cases e25
  · rw [if_neg (of_decide_eq_false k.ed25519), if_pos (of_decide_eq_true (k.ed448.trans h))]
    rfl
  · rw [if_pos (of_decide_eq_true k.ed25519)]
    rfl

theorem parse_ed25519 (pk : Bytes) (hne : pk ≠ []) (hl : pk.length < 2 ^ 32) :
    parseHostKey (Spec.ed25519Blob pk) = .ok { keyType := tEd25519, nLen := 32, nBits := 0, caType := [], caNLen := 0, caNBits := 0 } :=
  parseHostKey_fixed ed25519_kind rfl pk hne hl

theorem parse_ed448 (pk : Bytes) (hne : pk ≠ []) (hl : pk.length < 2 ^ 32) :
    parseHostKey (Spec.ed448Blob pk) = .ok { keyType := tEd448, nLen := 57, nBits := 0, caType := [], caNLen := 0, caNBits := 0 } :=
  parseHostKey_fixed ed448_kind rfl pk hne hl

theorem parse_rsaCert (e n ct : Nat) (f : Spec.CertFields) (ca : Bytes) (h : RsaOk e n) (hnonce : f.nonce.length < 2 ^ 32) :
    parseHostKey (Spec.rsaCert e n ct f ca) =
      (parseCaKey (certTail ct f ca)).map (fun c => { keyType := Spec.rsaCertKind, nLen := bitLen n / 8 + 1, nBits := bitLen n, caType := c.1, caNLen := c.2.1, caNBits := c.2.2 }) := by
  obtain ⟨he, hn, hel, hnl⟩ := h
  have := parseHostKey_fields rsaCert_kind f.nonce (mpBody e) (mpBody n) (certTail ct f ca) hnonce (mpBody_length_lt e hel) (mpBody_ne_nil e) (mpBody_length_lt n hnl) (mpBody_ne_nil n)
  rw [if_pos rfl, if_pos (Or.inl rfl), if_pos rfl, mpBody_value, mpBody_length] at this
  rw [Spec.rsaCert, certBlob_eq, mpint_pos e he, mpint_pos n hn, List.append_assoc]
  exact this

/-- an Ed25519 certificate: the nonce is read where an exponent would be, the public key where a modulus would be -/
theorem parse_edCert (pk : Bytes) (ct : Nat) (f : Spec.CertFields) (ca : Bytes) (hpk : pk ≠ []) (hpl : pk.length < 2 ^ 32)
    (hnn : f.nonce ≠ []) (hnonce : f.nonce.length < 2 ^ 32) :
    parseHostKey (Spec.edCert pk ct f ca) =
      (parseCaKey (certTail ct f ca)).map (fun c => { keyType := Spec.edCertKind, nLen := pk.length, nBits := 0, caType := c.1, caNLen := c.2.1, caNBits := c.2.2 }) := by
  have := parseHostKey_fields edCert_kind [] f.nonce pk (certTail ct f ca) (Nat.two_pow_pos 32) hnonce hnn hpl hpk
  rw [if_neg Bool.false_ne_true, if_pos (Or.inr rfl), if_neg Bool.false_ne_true, List.nil_append] at this
  rw [Spec.edCert, certBlob_eq]
  exact this

theorem recvReply_kexReply (blob f sig : Bytes) (hb : blob.length < 2 ^ 32) (hf : f.length < 2 ^ 32) (hs : sig.length < 2 ^ 32) :
    recvReply (Spec.kexReply blob f sig) = (parseHostKey blob).map (fun p => (blob, p)) := by
  unfold recvReply Spec.kexReply
  simp only [getBytes_sstr hb, getBytes_sstr hf, getBytes_sstr_nil hs, ok_bind, pure_eq_ok]
  cases parseHostKey blob <;> rfl

theorem recvReply_ok {p k : Bytes} {q : Parsed} (h : recvReply p = .ok (k, q)) : ∃ n r, getBytes p = .ok (k, n, r) := by
  unfold recvReply at h
  obtain ⟨⟨k', n, r⟩, h1, h2⟩ := bind_eq_ok.mp h
  obtain ⟨_, _, h3⟩ := bind_eq_ok.mp h2
  obtain ⟨_, _, h4⟩ := bind_eq_ok.mp h3
  obtain ⟨_, _, h5⟩ := bind_eq_ok.mp h4
  cases h5
  exact ⟨n, r, h1⟩

theorem getD_extendDesc (fails warns : List Str) (d : List (List (Option Str))) (i : Nat) :
    (extendDesc fails warns d).getD i [] =
      if i = 1 then d.getD i [] ++ fails.map some else if i = 2 then d.getD i [] ++ warns.map some else d.getD i [] := by
  rw [extendDesc, ← Text.getD_append_replicate_nil d (3 - d.length) i]
  have hlen : 3 ≤ (d ++ List.replicate (3 - d.length) ([] : List (Option Str))).length := by
    rw [List.length_append, List.length_replicate]; omega
  generalize d ++ List.replicate (3 - d.length) [] = d' at hlen ⊢
  simp only [List.getD_eq_getElem?_getD, List.getElem?_mapIdx]
  -- an index the padded list has is mapped; one it does not have is neither 1 nor 2
  cases hi : d'[i]? with
  | some l => rfl
  | none =>
    have := List.getElem?_eq_none_iff.mp hi
    rw [if_neg (by omega), if_neg (by omega)]
    rfl

variable {σ : Type}

/-- the guards of one pass of `perform_test` -/
def Active (keys : List Str) (st : St σ) (t : HostKeyType) : Prop :=
  st.halt = none ∧ st.parsed.contains t.name = false ∧ keys.contains t.name = true

theorem not_active_of_not_offered {keys : List Str} {st : St σ} {t : HostKeyType} (h : keys.contains t.name = false) : ¬ Active keys st t :=
  fun ⟨_, _, hk⟩ => Bool.noConfusion (hk.symm.trans h)

theorem not_active_of_parsed {keys : List Str} {st : St σ} {t : HostKeyType} (h : st.parsed.contains t.name = true) : ¬ Active keys st t :=
  fun ⟨_, hp, _⟩ => Bool.noConfusion (hp.symm.trans h)

theorem step_of_not_active (cfg : Cfg) (srv : σ → Str → Outcome × σ) (keys : List Str) (st : St σ) (t : HostKeyType)
    (h : ¬ Active keys st t) : step cfg srv keys st t = st := by
  unfold step
  by_cases hh : st.halt.isSome = true
  · rw [if_pos hh]
  · by_cases hp : st.parsed.contains t.name = true
    · rw [if_neg hh, if_pos hp]
    · by_cases hk : keys.contains t.name = false
      · rw [if_neg hh, if_neg hp, if_pos hk]
      · exact absurd ⟨Option.not_isSome_iff_eq_none.mp hh, eq_false_of_ne_true hp, eq_true_of_ne_false hk⟩ h

/-- the host-key map after the answered probe of `t`: `set_host_key` under `t`'s name and, for a plain RSA-family type, under every
    family name -/
def recordProbe (rf : List Str) (t : HostKeyType) (r : HKRec) (hk : List (Str × HKRec)) : List (Str × HKRec) :=
  if t.cert = false ∧ rf.contains t.name = true then rf.foldl (fun h n => setHostKey h n r) (setHostKey hk t.name r)
  else setHostKey hk t.name r

theorem step_of_active (cfg : Cfg) (srv : σ → Str → Outcome × σ) (keys : List Str) (st : St σ) (t : HostKeyType) (ha : Active keys st t) :
    step cfg srv keys st t =
      match probeResult (srv st.srv t.name).1 with
      | .stop => { st with srv := (srv st.srv t.name).2, probes := st.probes ++ [t.name], halt := some .connFail }
      | .skip => { st with srv := (srv st.srv t.name).2, probes := st.probes ++ [t.name] }
      | .got r =>
        match editAll st.db (if cfg.rsaFamily.contains t.name then cfg.rsaFamily else [t.name])
            (comments cfg t.name t.cert r.info.size r.info.caType r.info.caSize).1
            (comments cfg t.name t.cert r.info.size r.info.caType r.info.caSize).2 with
        | none => { st with srv := (srv st.srv t.name).2, probes := st.probes ++ [t.name],
                            hostKeys := recordProbe cfg.rsaFamily t r st.hostKeys, halt := some .keyError }
        | some db' => { st with srv := (srv st.srv t.name).2, probes := st.probes ++ [t.name],
                                hostKeys := recordProbe cfg.rsaFamily t r st.hostKeys, db := db',
                                parsed := st.parsed ++ (if cfg.rsaFamily.contains t.name then cfg.rsaFamily else [t.name]) } := by
  unfold step recordProbe
  simp only [ha.1, ha.2.1, ha.2.2, Option.isSome_none, if_false, Bool.false_eq_true, Bool.true_eq_false]
  rfl

theorem step_halted (cfg : Cfg) (srv : σ → Str → Outcome × σ) (keys : List Str) (st : St σ) (t : HostKeyType)
    (h : st.halt.isSome = true) : step cfg srv keys st t = st :=
  step_of_not_active cfg srv keys st t (fun a => by rw [a.1] at h; cases h)

section
variable (cfg : Cfg) (srv : σ → Str → Outcome × σ) (keys : List Str)

theorem foldl_of_not_active (ts : List HostKeyType) (st : St σ)
    (h : ∀ t ∈ ts, ¬ Active keys st t) : ts.foldl (step cfg srv keys) st = st :=
  List.foldlRecOn (motive := (· = st)) ts _ rfl fun _ hs t ht => hs ▸ step_of_not_active cfg srv keys st t (h t ht)

end

theorem dictGet_setHostKey_ne (hk : List (Str × HKRec)) (n m : Str) (r : HKRec) (h : m ≠ n) :
    dictGet (setHostKey hk n r) m = dictGet hk m := by
  unfold setHostKey
  split
  · rfl
  · rw [dictGet, List.find?_append, List.find?_singleton, if_neg (by simpa using Ne.symm h), Option.or_none, dictGet]

theorem lookup_editKey (db db' : DB) (name : Str) (f w : List Str) (h : editKey db name f w = some db') (n : Str) :
    DBm.lookup db' Report.keyC n =
      if n = name then (DBm.lookup db Report.keyC n).map (fun e => { e with desc := extendDesc f w e.desc }) else DBm.lookup db Report.keyC n := by
  unfold editKey at h
  split at h
  · cases h
  · cases h
    simp only [Report.lookup_updateEntry, true_and]

theorem editKey_isSome (db : DB) (name : Str) (f w : List Str) (h : (DBm.lookup db Report.keyC name).isSome = true) :
    ∃ db', editKey db name f w = some db' := by
  obtain ⟨e, he⟩ := Option.isSome_iff_exists.mp h
  exact ⟨_, by rw [editKey, he]⟩

theorem lookup_editAll (names : List Str) (hnd : names.Nodup) (db db' : DB) (f w : List Str) (h : editAll db names f w = some db') (n : Str) :
    DBm.lookup db' Report.keyC n =
      if n ∈ names then (DBm.lookup db Report.keyC n).map (fun e => { e with desc := extendDesc f w e.desc }) else DBm.lookup db Report.keyC n := by
  induction names generalizing db with
  | nil => cases h; rfl
  | cons a as ih =>
    obtain ⟨hna, hnd'⟩ := List.nodup_cons.mp hnd
    rw [editAll, List.foldlM_cons] at h
    obtain ⟨d1, h1, h⟩ := Option.bind_eq_some_iff.mp h
    rw [ih hnd' d1 h, lookup_editKey db d1 a f w h1]
    by_cases hn : n = a
    · subst hn; simp [hna]
    · simp [hn]

theorem editAll_isSome (names : List Str) (db : DB) (f w : List Str) (h : ∀ n ∈ names, (DBm.lookup db Report.keyC n).isSome = true) :
    ∃ db', editAll db names f w = some db' := by
  induction names generalizing db with
  | nil => exact ⟨db, rfl⟩
  | cons a as ih =>
    obtain ⟨d1, h1⟩ := editKey_isSome db a f w (h a (by simp))
    -- the edit of `a` keeps every entry there is
    obtain ⟨d2, h2⟩ := ih d1 (fun n hn => by
      rw [lookup_editKey db d1 a f w h1, apply_ite Option.isSome, Option.isSome_map, ite_self]
      exact h n (by simp [hn]))
    refine ⟨d2, ?_⟩
    rw [editAll, List.foldlM_cons, h1]
    exact h2

section
variable (cfg : Cfg) (srv : σ → Str → Outcome × σ) (keys : List Str)

/-- the RSA-family part of a scan state: the family's records, its database entries, its probe connections -/
def famView (st : St σ) : List (Option HKRec) × List (Option Entry) × List Str :=
  (cfg.rsaFamily.map (dictGet st.hostKeys), cfg.rsaFamily.map (DBm.lookup st.db Report.keyC), st.probes.filter (fun p => cfg.rsaFamily.contains p))

theorem famView_eq (a b : St σ) (h : famView cfg a = famView cfg b) :
    (∀ n ∈ cfg.rsaFamily, dictGet a.hostKeys n = dictGet b.hostKeys n) ∧
    (∀ n ∈ cfg.rsaFamily, DBm.lookup a.db Report.keyC n = DBm.lookup b.db Report.keyC n) ∧
    a.probes.filter (fun p => cfg.rsaFamily.contains p) = b.probes.filter (fun p => cfg.rsaFamily.contains p) := by
  unfold famView at h
  simp only [Prod.mk.injEq] at h
  exact ⟨List.map_inj_left.mp h.1, List.map_inj_left.mp h.2.1, h.2.2⟩

theorem step_other_famView (st : St σ) (t : HostKeyType)
    (h : cfg.rsaFamily.contains t.name = false) : famView cfg (step cfg srv keys st t) = famView cfg st := by
  have hne : ∀ n ∈ cfg.rsaFamily, n ≠ t.name := fun n hn he => by
    rw [List.contains_eq_mem, decide_eq_false_iff_not] at h
    exact h (he ▸ hn)
  by_cases ha : Active keys st t
  case neg => rw [step_of_not_active cfg srv keys st t ha]
  rw [step_of_active cfg srv keys st t ha]
  -- the record is entered under `t`'s name alone, and only `t`'s database entry is edited
  have hk1 : ∀ r, cfg.rsaFamily.map (dictGet (recordProbe cfg.rsaFamily t r st.hostKeys)) = cfg.rsaFamily.map (dictGet st.hostKeys) := by
    intro r
    rw [recordProbe, if_neg (fun hc => by rw [h] at hc; cases hc.2)]
    exact List.map_congr_left (fun n hn => dictGet_setHostKey_ne _ _ _ _ (hne n hn))
  cases hr : probeResult (srv st.srv t.name).1 with
  | stop => simp only [famView, Text.filter_append_not h]
  | skip => simp only [famView, Text.filter_append_not h]
  | got r =>
    simp only [h, Bool.false_eq_true, if_false]
    split
    · simp only [famView, Text.filter_append_not h, hk1]
    · next db' he =>
      have hd : cfg.rsaFamily.map (DBm.lookup db' Report.keyC) = cfg.rsaFamily.map (DBm.lookup st.db Report.keyC) :=
        List.map_congr_left fun n hn => by
          rw [lookup_editAll [t.name] (by simp) st.db db' _ _ he n, if_neg (by simp [hne n hn])]
      simp only [famView, Text.filter_append_not h, hk1, hd]

theorem famView_run (k : Nat) (s0 : σ) (db : DB) (kex : List Str) (hkex : kex.any (fun x => cfg.kexGroups.contains x) = true)
    (h : ∀ t ∈ cfg.types.drop k, cfg.rsaFamily.contains t.name = false) :
    famView cfg (run cfg srv s0 db kex keys) = famView cfg ((cfg.types.take k).foldl (step cfg srv keys) (initSt s0 db)) := by
  have : cfg.types.foldl (step cfg srv keys) (initSt s0 db) =
      (cfg.types.drop k).foldl (step cfg srv keys) ((cfg.types.take k).foldl (step cfg srv keys) (initSt s0 db)) := by
    rw [← List.foldl_append, List.take_append_drop]
  unfold run perform
  rw [if_pos hkex, this]
  -- the types after the first `k` leave the family's view as it is
  exact List.foldlRecOn (motive := (famView cfg · = famView cfg _)) _ _ rfl
    fun s hs t ht => (step_other_famView cfg srv keys s t (h t ht)).trans hs

end

theorem insertSorted_perm (k : Str) (l : List Str) : (insertSorted k l).Perm (k :: l) := by
  fun_induction insertSorted k l with
  | case1 => exact .refl _
  | case2 x xs _ ih => exact (ih.cons x).trans (.swap k x xs)
  | case3 => exact .refl _

theorem mem_insertSorted (k x : Str) (l : List Str) : x ∈ insertSorted k l ↔ x = k ∨ x ∈ l :=
  (insertSorted_perm k l).mem_iff.trans List.mem_cons

theorem mem_sortStrs (x : Str) (l : List Str) : x ∈ sortStrs l ↔ x ∈ l :=
  (Text.perm_foldr_insert insertSorted_perm l).mem_iff

theorem sorted_insert (k : Str) (l : List Str) (hs : l.Pairwise (· < ·)) (hk : k ∉ l) : (insertSorted k l).Pairwise (· < ·) := by
  fun_induction insertSorted k l with
  | case1 => simp
  | case2 x xs hlt ih =>
    obtain ⟨hx, hxs⟩ := List.pairwise_cons.mp hs
    simp only [List.pairwise_cons, mem_insertSorted, forall_eq_or_imp]
    exact ⟨⟨(Text.ltStr_iff x k).mp hlt, hx⟩, ih hxs (fun h => hk (List.mem_cons_of_mem _ h))⟩
  | case3 x xs hlt =>
    rw [Text.ltStr_iff] at hlt
    have hkx : k < x := Decidable.byContradiction fun h =>
      hk (List.le_antisymm (List.not_lt.mp hlt) (List.not_lt.mp h) ▸ List.mem_cons_self)
    exact List.pairwise_cons.mpr ⟨List.forall_mem_cons.mpr ⟨hkx, fun y hy => List.lt_trans hkx ((List.pairwise_cons.mp hs).1 y hy)⟩, hs⟩

theorem sorted_sortStrs (l : List Str) (hn : l.Nodup) : (sortStrs l).Pairwise (· < ·) := by
  induction l with
  | nil => simp [sortStrs]
  | cons x xs ih =>
    have hx := List.nodup_cons.mp hn
    exact sorted_insert x _ (ih hx.2) (fun h => hx.1 ((mem_sortStrs x xs).mp h))

theorem sorted_ext {β : Type} (a b : List (Str × β)) (ha : (a.map (·.1)).Pairwise (· < ·)) (hb : (b.map (·.1)).Pairwise (· < ·))
    (h : ∀ p, p ∈ a ↔ p ∈ b) : a = b :=
  Text.eq_of_perm_of_sorted ((List.perm_ext_iff_of_nodup (Text.nodup_of_pairwise_lt ha) (Text.nodup_of_pairwise_lt hb)).mpr h) ha hb

section dict
variable {α : Type} {d d0 l : List (Str × α)} {k k' : Str} {v : α} {e : Str × α}

def keysOf (d : List (Str × α)) : List Str := d.map (·.1)

theorem mem_keysOf : k ∈ keysOf d ↔ ∃ v, (k, v) ∈ d := by
  simp only [keysOf, List.mem_map]
  exact ⟨fun ⟨e, he, hk⟩ => ⟨e.2, by subst hk; exact he⟩, fun ⟨v, hv⟩ => ⟨(k, v), hv, rfl⟩⟩

theorem mem_dictDel : e ∈ dictDel d k ↔ e ∈ d ∧ e.1 ≠ k := by
  simp [dictDel, List.mem_filter]

theorem nodup_dictDel (h : (keysOf d).Nodup) : (keysOf (dictDel d k)).Nodup := by
  unfold keysOf dictDel
  exact List.Nodup.sublist (List.Sublist.map _ List.filter_sublist) h

theorem any_key_iff : d.any (·.1 = k) = true ↔ k ∈ keysOf d := by
  simp only [keysOf, List.any_eq_true, List.mem_map, decide_eq_true_eq]

theorem keys_dictSet :
    keysOf (dictSet d k v) = if k ∈ keysOf d then keysOf d else keysOf d ++ [k] := by
  unfold dictSet
  split
  · next h =>
    -- an entry that is replaced has the key `k` already
    rw [if_pos (any_key_iff.mp h), keysOf, List.map_map]
    exact List.map_congr_left fun e _ => by rw [Function.comp, apply_ite Prod.fst, ite_eq_right_iff]; exact Eq.symm
  · next h => rw [if_neg (fun hk => h (any_key_iff.mpr hk)), keysOf, List.map_append]; rfl

theorem nodup_dictSet (h : (keysOf d).Nodup) : (keysOf (dictSet d k v)).Nodup := by
  rw [keys_dictSet]
  split
  · exact h
  · next hk =>
    refine List.nodup_append.mpr ⟨h, List.pairwise_singleton _ k, fun a ha b hb hab => hk ?_⟩
    rwa [← List.mem_singleton.mp hb, ← hab]

theorem mem_keys_dictSet : k' ∈ keysOf (dictSet d k v) ↔ k' ∈ keysOf d ∨ k' = k := by
  rw [keys_dictSet]
  split
  · next h => exact ⟨Or.inl, fun h' => h'.elim id (fun e => e ▸ h)⟩
  · simp only [List.mem_append, List.mem_singleton]

theorem mem_keys_dictDel : k' ∈ keysOf (dictDel d k) ↔ k' ∈ keysOf d ∧ k' ≠ k := by
  simp only [mem_keysOf, mem_dictDel]
  exact ⟨fun ⟨v, hv, hk⟩ => ⟨⟨v, hv⟩, hk⟩, fun ⟨⟨v, hv⟩, hk⟩ => ⟨v, hv, hk⟩⟩

theorem mem_dictSet :
    e ∈ dictSet d k v ↔ (e ∈ d ∧ e.1 ≠ k) ∨ (e = (k, v)) := by
  unfold dictSet
  split
  · next h =>
    obtain ⟨x, hx, hxk⟩ := List.any_eq_true.mp h
    simp only [decide_eq_true_eq] at hxk
    simp only [List.mem_map]
    constructor
    · rintro ⟨y, hy, rfl⟩
      by_cases hyk : y.1 = k
      · exact Or.inr (if_pos hyk)
      · exact Or.inl ⟨by rwa [if_neg hyk], by rwa [if_neg hyk]⟩
    · rintro (⟨he, hek⟩ | rfl)
      · exact ⟨e, he, if_neg hek⟩
      · exact ⟨x, hx, if_pos hxk⟩
  · next h =>
    have hall : ∀ y ∈ d, y.1 ≠ k := fun y hy hyk => h (List.any_eq_true.mpr ⟨y, hy, by simp [hyk]⟩)
    simp only [List.mem_append, List.mem_singleton]
    exact ⟨fun h' => h'.imp_left (fun he => ⟨he, hall e he⟩), fun h' => h'.imp_left And.left⟩

theorem dictGet_iff_mem (h : (keysOf d).Nodup) : dictGet d k = some v ↔ (k, v) ∈ d := Text.assoc_eq_some_iff h

theorem dictGet_eq_none_iff : dictGet d k = none ↔ k ∉ keysOf d := Text.assoc_eq_none_iff

/-- the dictionary after the assignments `d[k] = v` for the pairs `(k, v)` of `l`, in order -/
def dictOf (l d0 : List (Str × α)) : List (Str × α) := l.foldl (fun d kv => dictSet d kv.1 kv.2) d0

theorem nodup_dictOf (h : (keysOf d0).Nodup) : (keysOf (dictOf l d0)).Nodup :=
  List.foldlRecOn (motive := fun d => (keysOf d).Nodup) l _ h fun _ hd _ _ => nodup_dictSet hd

theorem mem_dictOf (h : e ∈ dictOf l d0) : e ∈ d0 ∨ e ∈ l :=
  List.foldlRecOn (motive := fun d => e ∈ d → e ∈ d0 ∨ e ∈ l) l _ Or.inl
    (fun _ ih p hp hmem => (mem_dictSet.mp hmem).elim (fun hold => ih hold.1) (fun hnew => Or.inr (hnew ▸ hp))) h

theorem mem_keys_dictOf : k ∈ keysOf (dictOf l d0) ↔ k ∈ keysOf d0 ∨ k ∈ keysOf l := by
  induction l generalizing d0 with
  | nil => simp [dictOf, keysOf]
  | cons p l ih =>
    rw [dictOf, List.foldl_cons, ← dictOf, ih, mem_keys_dictSet, or_assoc]
    simp only [keysOf, List.map_cons, List.mem_cons]

theorem mem_filterMap_dictGet {γ : Type} (hn : (keysOf d).Nodup) {l : List Str} {f : α → γ} {w : γ} :
    (k, w) ∈ l.filterMap (fun k => (dictGet d k).map (fun v => (k, f v))) ↔ k ∈ l ∧ ∃ v, (k, v) ∈ d ∧ f v = w := by
  simp only [List.mem_filterMap, Option.map_eq_some_iff, Prod.mk.injEq]
  constructor
  · rintro ⟨k', hk', v, hv, rfl, rfl⟩
    exact ⟨hk', v, (dictGet_iff_mem hn).mp hv, rfl⟩
  · rintro ⟨hk, v, hv, rfl⟩
    exact ⟨k, hk, v, (dictGet_iff_mem hn).mpr hv, rfl, rfl⟩

theorem sorted_filterMap_dictGet {γ : Type} {l : List Str} {f : α → γ} (h : l.Pairwise (· < ·)) :
    ((l.filterMap (fun k => (dictGet d k).map (fun v => (k, f v)))).map (·.1)).Pairwise (· < ·) := by
  rw [Text.map_fst_filterMap]
  exact h.filter _

end dict

/-- some record with fingerprint label `L` carries the bytes `raw` -/
def LabRaw (rf : List Str) (hk : List (Str × HKRec)) (L : Str) (raw : Bytes) : Prop :=
  ∃ e ∈ hk, fpLabel rf e.1 = L ∧ e.2.raw = raw

/-- records with the same fingerprint label carry the same bytes -/
def LabelDet (rf : List Str) (hk : List (Str × HKRec)) : Prop :=
  ∀ e ∈ hk, ∀ e' ∈ hk, fpLabel rf e.1 = fpLabel rf e'.1 → e.2.raw = e'.2.raw

theorem LabelDet.unique {rf : List Str} {hk : List (Str × HKRec)} (hd : LabelDet rf hk) {L : Str} {r r' : Bytes}
    (h : LabRaw rf hk L r) (h' : LabRaw rf hk L r') : r = r' := by
  obtain ⟨a, ha, hla, rfl⟩ := h
  obtain ⟨b, hb, hlb, rfl⟩ := h'
  exact hd a ha b hb (hla.trans hlb.symm)

section fingerprints
variable (rf : List Str) (hk : List (Str × HKRec))

theorem fpLabel_tRsa : fpLabel rf tRsa = tRsa := by unfold fpLabel; split <;> rfl

theorem textFpDict_eq : textFpDict rf hk =
    dictOf ((hk.filter (fun e => !isCert (fpLabel rf e.1))).map (fun e => (fpLabel rf e.1, e.2.raw))) [] := by
  unfold textFpDict dictOf
  rw [List.foldl_map, List.foldl_filter]
  congr 1
  funext d e
  cases isCert (fpLabel rf e.1) <;> rfl

theorem nodup_textFpDict : (keysOf (textFpDict rf hk)).Nodup := by
  rw [textFpDict_eq]
  exact nodup_dictOf List.nodup_nil

theorem textFpDict_sound (L : Str) (raw : Bytes) (h : (L, raw) ∈ textFpDict rf hk) :
    isCert L = false ∧ LabRaw rf hk L raw := by
  rw [textFpDict_eq] at h
  obtain ⟨e, he, heq⟩ := List.mem_map.mp ((mem_dictOf h).resolve_left List.not_mem_nil)
  obtain ⟨he, hc⟩ := List.mem_filter.mp he
  cases heq
  exact ⟨by simpa using hc, e, he, rfl, rfl⟩

theorem textFpDict_complete (e : Str × HKRec) (he : e ∈ hk) (hc : isCert (fpLabel rf e.1) = false) :
    fpLabel rf e.1 ∈ keysOf (textFpDict rf hk) := by
  rw [textFpDict_eq, mem_keys_dictOf]
  exact Or.inr (List.mem_map.mpr ⟨_, List.mem_map.mpr ⟨e, List.mem_filter.mpr ⟨he, by simp [hc]⟩, rfl⟩, rfl⟩)

theorem mem_textFpDict_iff (hd : LabelDet rf hk) (L : Str) (raw : Bytes) :
    (L, raw) ∈ textFpDict rf hk ↔ isCert L = false ∧ LabRaw rf hk L raw := by
  constructor
  · exact textFpDict_sound rf hk L raw
  · rintro ⟨hc, e, he, rfl, rfl⟩
    obtain ⟨v, hv⟩ := mem_keysOf.mp (textFpDict_complete rf hk e he hc)
    rw [← hd.unique (textFpDict_sound rf hk _ v hv).2 ⟨e, he, rfl, rfl⟩]
    exact hv

theorem mem_textFps (p : Str × Bytes) : p ∈ textFps rf hk ↔ p ∈ textFpDict rf hk := by
  obtain ⟨k, w⟩ := p
  unfold textFps
  rw [mem_filterMap_dictGet (nodup_textFpDict rf hk), mem_sortStrs]
  constructor
  · rintro ⟨_, v, hv, rfl⟩
    exact hv
  · exact fun h => ⟨List.mem_map_of_mem (f := (·.1)) h, w, h, rfl⟩

theorem sorted_textFps : ((textFps rf hk).map (·.1)).Pairwise (· < ·) :=
  sorted_filterMap_dictGet (sorted_sortStrs _ (nodup_textFpDict rf hk))

/-- one pass of the renaming loop of `build_struct` -/
def renameStep (d : List (Str × HKRec)) (k : Str) : List (Str × HKRec) :=
  if rf.contains k then
    match dictGet d k with
    | some v => dictSet (dictDel d k) tRsa v
    | none => d
  else d

theorem jsonRename_eq : jsonRename rf hk = (hk.map (·.1)).foldl (renameStep rf) hk := rfl

/-- renaming a family key to `ssh-rsa` keeps the (label, bytes) relation: its label was `ssh-rsa` already, and whatever else
    carries that label carries the same bytes -/
theorem labRaw_rename (d : List (Str × HKRec)) (k : Str) (v : HKRec) (hkv : (k, v) ∈ d) (hlk : fpLabel rf k = tRsa)
    (hdet : ∀ e ∈ d, fpLabel rf e.1 = tRsa → e.2.raw = v.raw) (L : Str) (raw : Bytes) :
    LabRaw rf (dictSet (dictDel d k) tRsa v) L raw ↔ LabRaw rf d L raw := by
  unfold LabRaw
  simp only [mem_dictSet, mem_dictDel]
  constructor
  · rintro ⟨e, ⟨⟨he, _⟩, _⟩ | rfl, hl, hr⟩
    · exact ⟨e, he, hl, hr⟩
    · exact ⟨(k, v), hkv, hlk.trans ((fpLabel_tRsa rf).symm.trans hl), hr⟩
  · rintro ⟨e, he, hl, hr⟩
    by_cases hle : fpLabel rf e.1 = tRsa
    · exact ⟨(tRsa, v), Or.inr rfl, (fpLabel_tRsa rf).trans (hle.symm.trans hl), (hdet e he hle).symm.trans hr⟩
    · exact ⟨e, Or.inl ⟨⟨he, fun h => hle (h ▸ hlk)⟩, fun h => hle (h ▸ fpLabel_tRsa rf)⟩, hl, hr⟩

/-- invariant of the renaming loop; `todo` = the keys still to be visited -/
def RenInv (d : List (Str × HKRec)) (todo : List Str) : Prop :=
  (keysOf d).Nodup ∧ (∀ L raw, LabRaw rf d L raw ↔ LabRaw rf hk L raw) ∧ (∀ k ∈ keysOf d, rf.contains k = true → k = tRsa ∨ k ∈ todo)

theorem renameStep_inv (d : List (Str × HKRec)) (k : Str) (todo : List Str) (hd : LabelDet rf hk)
    (h : RenInv rf hk d (k :: todo)) : RenInv rf hk (renameStep rf d k) todo := by
  obtain ⟨h1, h2, h3⟩ := h
  have h3' : ∀ k' ∈ keysOf d, rf.contains k' = true → k' ≠ k → k' = tRsa ∨ k' ∈ todo := fun k' hk' hf' hne =>
    (h3 k' hk' hf').imp_right (fun h => (List.mem_cons.mp h).resolve_left hne)
  unfold renameStep
  split
  · next hf =>
    split
    · next v hg =>
      have hkv : (k, v) ∈ d := (dictGet_iff_mem h1).mp hg
      have hlk : fpLabel rf k = tRsa := if_pos hf
      refine ⟨nodup_dictSet (nodup_dictDel h1), fun L raw => (labRaw_rename rf d k v hkv hlk ?_ L raw).trans (h2 L raw), ?_⟩
      · exact fun e he hl => hd.unique ((h2 _ _).mp ⟨e, he, hl, rfl⟩) ((h2 _ _).mp ⟨(k, v), hkv, hlk, rfl⟩)
      · intro k' hk' hf'
        rw [mem_keys_dictSet, mem_keys_dictDel] at hk'
        rcases hk' with ⟨hk', hne⟩ | rfl
        · exact h3' k' hk' hf' hne
        · exact Or.inl rfl
    · next hg => exact ⟨h1, h2, fun k' hk' hf' => h3' k' hk' hf' (fun e => dictGet_eq_none_iff.mp hg (e ▸ hk'))⟩
  · next hf => exact ⟨h1, h2, fun k' hk' hf' => h3' k' hk' hf' (fun e => hf (e ▸ hf'))⟩

theorem rename_fold_inv (hd : LabelDet rf hk) (todo : List Str) (d : List (Str × HKRec))
    (h : RenInv rf hk d todo) : RenInv rf hk (todo.foldl (renameStep rf) d) [] := by
  induction todo generalizing d with
  | nil => exact h
  | cons k ks ih => exact ih _ (renameStep_inv rf hk d k ks hd h)

theorem jsonRename_inv (hn : (keysOf hk).Nodup) (hd : LabelDet rf hk) :
    RenInv rf hk (jsonRename rf hk) [] := by
  rw [jsonRename_eq]
  apply rename_fold_inv rf hk hd
  exact ⟨hn, fun _ _ => Iff.rfl, fun k hk' _ => Or.inr hk'⟩

theorem mem_jsonFps (hn : (keysOf hk).Nodup) (hd : LabelDet rf hk) (L : Str) (raw : Bytes) :
    (L, raw) ∈ jsonFps rf hk ↔ isCert L = false ∧ LabRaw rf hk L raw := by
  obtain ⟨i1, i2, i3⟩ := jsonRename_inv rf hk hn hd
  -- after the loop the only family key left is `ssh-rsa`: every key is its own label
  have hlab : ∀ e ∈ jsonRename rf hk, fpLabel rf e.1 = e.1 := fun e he => by
    by_cases hc : rf.contains e.1 = true
    · rw [(i3 e.1 (List.mem_map_of_mem (f := (·.1)) he) hc).resolve_right List.not_mem_nil, fpLabel_tRsa]
    · exact if_neg hc
  unfold jsonFps
  rw [← i2 L raw, mem_filterMap_dictGet i1, List.mem_filter, mem_sortStrs]
  constructor
  · rintro ⟨⟨_, hc⟩, v, hv, rfl⟩
    exact ⟨by simpa using hc, (L, v), hv, hlab _ hv, rfl⟩
  · rintro ⟨hc, e, he, rfl, rfl⟩
    rw [hlab e he] at hc ⊢
    exact ⟨⟨List.mem_map_of_mem (f := (·.1)) he, by simp [hc]⟩, e.2, he, rfl⟩

theorem sorted_jsonFps (hn : (keysOf hk).Nodup) (hd : LabelDet rf hk) :
    ((jsonFps rf hk).map (·.1)).Pairwise (· < ·) :=
  sorted_filterMap_dictGet ((sorted_sortStrs _ (jsonRename_inv rf hk hn hd).1).filter _)

theorem textFps_eq_jsonFps (hn : (keysOf hk).Nodup) (hd : LabelDet rf hk) :
    textFps rf hk = jsonFps rf hk := by
  apply sorted_ext _ _ (sorted_textFps rf hk) (sorted_jsonFps rf hk hn hd)
  intro p
  obtain ⟨L, raw⟩ := p
  rw [mem_textFps, mem_textFpDict_iff rf hk hd, mem_jsonFps rf hk hn hd]

end fingerprints

theorem rstripEq_pad (x : Str) (k : Nat) (h : ∀ c ∈ x, c ≠ '=') : rstripEq (x ++ List.replicate k '=') = x := by
  unfold rstripEq
  rw [List.reverse_append, List.reverse_replicate,
    Text.dropWhile_append_stop (fun c hc => by simp [(List.mem_replicate.mp hc).2])
      (fun a ha => by simpa using h a (List.mem_reverse.mp (List.mem_of_mem_head? ha))),
    List.reverse_reverse]

theorem not_ecdsa_nil : Text.startsWith [] pEcdsa = false := by decide +kernel

theorem not_ecdsa_of_not_ecc (t : Str) (h : isEcc t = false) : Text.startsWith t pEcdsa = false := by
  unfold isEcc at h
  simp only [Bool.or_eq_false_iff] at h
  exact h.2

theorem limits_of_not_ecc (c : Cfg) (n : Str) (h : isEcc n = false) : limits c n = (3072, 2048, c.two2k) := by
  unfold limits; rw [h]; rfl

theorem limits_of_ecc (c : Cfg) (n : Str) (h : isEcc n = true) : limits c n = (256, 224, c.smallEcc) := by
  unfold limits; rw [h]; rfl

theorem limits_le_of_eq {c : Cfg} {n : Str} {G W : Nat} {S : Str} (h : limits c n = (G, W, S)) : W ≤ G := by
  unfold limits at h
  split at h <;> cases h <;> decide

theorem ite_singleton_eq_nil {α : Type} {p : Prop} [Decidable p] {x : α} : (if p then [x] else []) = [] ↔ ¬ p := by
  split <;> simp [*]

theorem append_note_if {α β : Type} (p : Prop) [Decidable p] (x : List α × β) (t : α) :
    (if p then (x.1 ++ [t], x.2) else x) = (x.1 ++ (if p then [t] else []), x.2) := by
  split <;> simp

theorem note_pair_eq {α : Type} {p q : Prop} [Decidable p] [Decidable q] {x y : α} :
    (if p then ([x], []) else if q then ([], [y]) else (([], []) : List α × List α)) = (if p then [x] else [], if ¬ p ∧ q then [y] else []) := by
  by_cases hp : p <;> by_cases hq : q <;> simp [hp, hq]

theorem contains_ite_singleton {p : Prop} [Decidable p] {a b : Str} : (if p then [a] else []).contains b = true ↔ p ∧ b = a := by
  by_cases hp : p <;> simp [hp]

theorem comments_cert (c : Cfg) (name caType : Str) (size caSize hG hW cG cW : Nat) (hS cS : Str)
    (hl : limits c name = (hG, hW, hS)) (cl : limits c caType = (cG, cW, cS)) (hpos : 0 < size ∨ 0 < caSize) :
    comments c name true size caType caSize =
      ((if size < hW then [smallHostText size] else []) ++ (if 0 < caSize ∧ caSize < cW then [smallCaText caSize] else []) ++
         (if Text.startsWith caType pEcdsa then [nsaText] else []),
       (if hW ≤ size ∧ size < hG then [hS] else []) ++
         (if (0 < caSize ∧ cW ≤ caSize ∧ caSize < cG) ∧ ¬ (hW ≤ size ∧ size < hG ∧ cS = hS) then [cS] else [])) := by
  have hle := limits_le_of_eq hl
  have cle := limits_le_of_eq cl
  unfold comments
  rw [if_pos hpos, hl, cl]
  -- the key's pair and the CA key's pair, each as (failure, warning); the second warning is dropped when the first has its text
  simp only [append_note_if, Bool.true_eq_false, false_and, if_false, true_and, note_pair_eq, contains_ite_singleton, Nat.not_lt]
  have hca : (¬ (0 < caSize ∧ caSize < cW) ∧ (0 < caSize ∧ caSize < cG)) ↔ (0 < caSize ∧ cW ≤ caSize ∧ caSize < cG) := by omega
  by_cases g : size < hG ∨ 0 < caSize ∧ caSize < cG
  · rw [if_pos g]
    simp only [← and_assoc, hca]
  · -- outside the guard both keys are at or above their limits: no note is due
    rw [if_neg g]
    obtain ⟨h2, g2⟩ := not_or.mp g
    have h1 : ¬ size < hW := fun h => h2 (Nat.lt_of_lt_of_le h hle)
    have h3 : ¬ (0 < caSize ∧ caSize < cW) := fun h => g2 ⟨h.1, Nat.lt_of_lt_of_le h.2 cle⟩
    have h4 : ¬ (0 < caSize ∧ cW ≤ caSize ∧ caSize < cG) := fun h => g2 ⟨h.1, h.2.2⟩
    simp only [h1, h2, h3, h4, and_false, false_and, if_false, List.append_nil]

theorem comments_plain (c : Cfg) (name caType : Str) (size caSize hG hW : Nat) (hS : Str)
    (hl : limits c name = (hG, hW, hS)) (hpos : 0 < size ∨ 0 < caSize) :
    comments c name false size caType caSize =
      ((if size < hW ∧ size < hG ∧ name ≠ tDss then [smallText size] else []) ++ (if Text.startsWith caType pEcdsa then [nsaText] else []),
       if hW ≤ size ∧ size < hG ∧ name ≠ tDss then [hS] else []) := by
  unfold comments
  rw [if_pos hpos, hl]
  generalize limits c caType = lc
  simp only [append_note_if, Bool.false_eq_true, false_and, if_false, true_and]
  by_cases g : size < hG ∧ name ≠ tDss
  · by_cases a : size < hW
    · simp [g, a, Nat.not_le.mpr a]
    · simp [g, a, Nat.not_lt.mp a]
  · simp [g]

theorem find_toReport (hk : List (Str × HKRec)) (n : Str) :
    (toReport hk).find? (·.1 = n) = (hk.find? (·.1 = n)).map (fun e => (e.1, e.2.info)) := by
  unfold toReport
  rw [List.find?_map]
  rfl

section scan
variable {σ : Type}

def FamSame (rf : List Str) (hk : List (Str × HKRec)) : Prop :=
  ∀ e ∈ hk, ∀ e' ∈ hk, rf.contains e.1 = true → rf.contains e'.1 = true → e.2 = e'.2

section records
variable {rf names : List Str} {t : HostKeyType} {r : HKRec} {hk : List (Str × HKRec)} {n m : Str} {e : Str × HKRec}

theorem setHostKey_eq : setHostKey hk n r = if n ∈ keysOf hk then hk else dictSet hk n r := by
  unfold setHostKey dictSet
  by_cases h : hk.any (·.1 = n) = true
  · rw [if_pos h, if_pos (any_key_iff.mp h)]
  · rw [if_neg h, if_neg (fun h' => h (any_key_iff.mpr h')), if_neg h]

theorem nodup_setHostKey (h : (keysOf hk).Nodup) : (keysOf (setHostKey hk n r)).Nodup := by
  rw [setHostKey_eq]
  split
  · exact h
  · exact nodup_dictSet h

theorem mem_setHostKey (h : e ∈ setHostKey hk n r) : e ∈ hk ∨ e = (n, r) := by
  rw [setHostKey_eq] at h
  split at h
  · exact Or.inl h
  · exact (mem_dictSet.mp h).imp_left And.left

theorem mem_keys_setHostKey : m ∈ keysOf (setHostKey hk n r) ↔ m ∈ keysOf hk ∨ m = n := by
  rw [setHostKey_eq]
  split
  · next h => exact ⟨Or.inl, fun h' => h'.elim id (fun e => e ▸ h)⟩
  · exact mem_keys_dictSet

theorem mem_foldl_setHostKey (h : e ∈ names.foldl (fun h n => setHostKey h n r) hk) : e ∈ hk ∨ e.2 = r :=
  List.foldlRecOn (motive := fun d => e ∈ d → e ∈ hk ∨ e.2 = r) names _ Or.inl
    (fun _ ih a _ hmem => (mem_setHostKey hmem).elim ih (fun (hnew : e = (a, r)) => Or.inr (hnew ▸ rfl))) h

theorem mem_keys_foldl_setHostKey : m ∈ keysOf (names.foldl (fun h n => setHostKey h n r) hk) ↔ m ∈ keysOf hk ∨ m ∈ names := by
  induction names generalizing hk with
  | nil => simp
  | cons a as ih => rw [List.foldl_cons, ih, mem_keys_setHostKey, or_assoc, List.mem_cons]

theorem nodup_recordProbe (h : (keysOf hk).Nodup) : (keysOf (recordProbe rf t r hk)).Nodup := by
  unfold recordProbe
  split
  · exact List.foldlRecOn (motive := fun d => (keysOf d).Nodup) _ _ (nodup_setHostKey h) fun _ hd _ _ => nodup_setHostKey hd
  · exact nodup_setHostKey h

theorem mem_recordProbe (h : e ∈ recordProbe rf t r hk) : e ∈ hk ∨ (e.2 = r ∧ (e.1 = t.name ∨ rf.contains t.name = true)) := by
  unfold recordProbe at h
  split at h
  · next hc =>
    rcases mem_foldl_setHostKey h with h | h
    · exact (mem_setHostKey h).imp_right (fun (h : e = (t.name, r)) => h ▸ ⟨rfl, Or.inl rfl⟩)
    · exact Or.inr ⟨h, Or.inr hc.2⟩
  · exact (mem_setHostKey h).imp_right (fun (h : e = (t.name, r)) => h ▸ ⟨rfl, Or.inl rfl⟩)

theorem dictGet_recordProbe (hn : (keysOf hk).Nodup) (hc : t.cert = false) (hf : rf.contains t.name = true)
    (hno : ∀ n ∈ rf, n ∉ keysOf hk) (hn' : n ∈ rf) : dictGet (recordProbe rf t r hk) n = some r := by
  have hk' : n ∈ keysOf (recordProbe rf t r hk) := by
    unfold recordProbe
    rw [if_pos ⟨hc, hf⟩, mem_keys_foldl_setHostKey]
    exact Or.inr hn'
  obtain ⟨v, hv⟩ := mem_keysOf.mp hk'
  rcases mem_recordProbe hv with h | ⟨h, _⟩
  · exact absurd (mem_keysOf.mpr ⟨v, h⟩) (hno n hn')
  · exact (dictGet_iff_mem (nodup_recordProbe hn)).mpr (h ▸ hv)

theorem mem_of_mem_recordProbe (hf : ¬ rf.contains t.name = true) (he : e ∈ recordProbe rf t r hk) (hc : rf.contains e.1 = true) : e ∈ hk := by
  rcases mem_recordProbe he with h | ⟨_, h | h⟩
  · exact h
  · exact absurd (h ▸ hc) hf
  · exact absurd h hf

theorem famSame_recordProbe (h : FamSame rf hk) (hno : rf.contains t.name = true → ∀ x ∈ hk, rf.contains x.1 = false) :
    FamSame rf (recordProbe rf t r hk) := by
  intro e he e' he' hc hc'
  by_cases hf : rf.contains t.name = true
  · have new : ∀ x ∈ recordProbe rf t r hk, rf.contains x.1 = true → x.2 = r := fun x hx hcx =>
      (mem_recordProbe hx).elim (fun h' => absurd hcx (by rw [hno hf x h']; decide)) And.left
    rw [new e he hc, new e' he' hc']
  · exact h e (mem_of_mem_recordProbe hf he hc) e' (mem_of_mem_recordProbe hf he' hc') hc hc'

end records

/-- preserved by every pass of `perform_test`: distinct types, one record for the whole RSA family, and (unless the loop has halted)
    the whole family counted as parsed as soon as one of its records exists -/
def ScanInv (cfg : Cfg) (st : St σ) : Prop :=
  (keysOf st.hostKeys).Nodup ∧ FamSame cfg.rsaFamily st.hostKeys ∧
  (st.halt = none → (∃ e ∈ st.hostKeys, cfg.rsaFamily.contains e.1 = true) → ∀ n ∈ cfg.rsaFamily, st.parsed.contains n = true)

theorem step_inv (cfg : Cfg) (srv : σ → Str → Outcome × σ) (keys : List Str) (st : St σ) (t : HostKeyType)
    (h : ScanInv cfg st) : ScanInv cfg (step cfg srv keys st t) := by
  by_cases ha : Active keys st t
  case neg => rw [step_of_not_active cfg srv keys st t ha]; exact h
  obtain ⟨h1, h2, h3⟩ := h
  rw [step_of_active cfg srv keys st t ha]
  obtain ⟨hnone, hp, _⟩ := ha
  cases hr : probeResult (srv st.srv t.name).1 with
  | stop => exact ⟨h1, h2, fun hc => by cases hc⟩
  | skip => exact ⟨h1, h2, h3⟩
  | got r =>
    -- a family type is probed only while nothing of the family is recorded: otherwise it would count as parsed
    have hfs : FamSame cfg.rsaFamily (recordProbe cfg.rsaFamily t r st.hostKeys) := famSame_recordProbe h2 (fun hf x hx => by
      cases hcx : cfg.rsaFamily.contains x.1 with
      | false => rfl
      | true => exact absurd (h3 hnone ⟨x, hx, hcx⟩ t.name (by simpa using hf)) (by rw [hp]; decide))
    simp only []
    split
    · exact ⟨nodup_recordProbe h1, hfs, fun hc => by cases hc⟩
    · refine ⟨nodup_recordProbe h1, hfs, fun _ ⟨e, he, hce⟩ n hn => ?_⟩
      simp only [List.contains_eq_mem, List.mem_append, decide_eq_true_eq, Bool.decide_or, Bool.or_eq_true]
      by_cases hf : cfg.rsaFamily.contains t.name = true
      · exact Or.inr (by rw [if_pos (by simpa using hf)]; exact hn)
      · exact Or.inl (by simpa using h3 hnone ⟨e, mem_of_mem_recordProbe hf he hce, hce⟩ n hn)

theorem run_inv (cfg : Cfg) (srv : σ → Str → Outcome × σ) (s0 : σ) (db : DB) (kex keys : List Str) : ScanInv cfg (run cfg srv s0 db kex keys) := by
  have h0 : ScanInv cfg (initSt s0 db) := ⟨by simp [initSt, keysOf], by intro e he; simp [initSt] at he, by intro _ ⟨e, he, _⟩; simp [initSt] at he⟩
  unfold run
  split
  · exact List.foldlRecOn cfg.types _ h0 fun s hs t _ => step_inv cfg srv keys s t hs
  · exact h0

theorem labelDet_of_famSame (rf : List Str) (hk : List (Str × HKRec)) (ht : rf.contains tRsa = true) (hn : (keysOf hk).Nodup) (hf : FamSame rf hk) :
    LabelDet rf hk := by
  intro e he e' he' hl
  unfold fpLabel at hl
  by_cases hc : rf.contains e.1 = true <;> by_cases hc' : rf.contains e'.1 = true
  · rw [hf e he e' he' hc hc']
  · rw [if_pos hc, if_neg hc'] at hl
    rw [← hl] at hc'; exact absurd ht hc'
  · rw [if_neg hc, if_pos hc'] at hl
    rw [hl] at hc; exact absurd ht hc
  · rw [if_neg hc, if_neg hc'] at hl
    rw [Text.inj_of_nodup_map hn he he' hl]

end scan

end SshAudit.HostKey
