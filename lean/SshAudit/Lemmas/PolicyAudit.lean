/- `evaluate_policy` (`ssh_audit.py`) call by call through the output buffer: at level 0 the un-ended `Result: ` line is continued by the verdict,
   above it nothing is left open.  The texts of the banner-only report of a broken handshake are told from the verdict lines by their first character.
   Last, `load_builtin_policy` as an equivalence (`loadBuiltin_eq_ok`). -/
import SshAudit.Model.PolicyAudit
import SshAudit.Lemmas.Output
namespace SshAudit.PolicyAudit
open Pol (s Policy Peer PErr)
open Output

/-- the calls after the un-ended `Result: ` one: the verdict, which at level 0 continues that line, then calls that all end their line —
    written as `Item`s, the form `exec_items` runs in one step -/
theorem verdict_note_ops (c : Conf) (pi : PolicyInfo) (res : Pol.St) :
    verdictOps c pi res ++ noteOps pi =
      Op.print (if res.1 then .good else .fail) (if res.1 then passedText c.windows else failedText c.windows) true false ::
        ((if res.1 then [] else [⟨.warn, errorsText pi res.2, false⟩]) ++ (if pi.outdated then [⟨.warn, noteText, false⟩] else []) : List Item).map Item.op := by
  unfold verdictOps noteOps
  cases res.1 <;> cases pi.outdated <;> rfl

/-- what one call of method `m` (of level `k`) leaves at `-l` level `cfg.level`: its painted text if `cfg.level ≤ k`, nothing above -/
theorem bodyOf_level (cfg : Cfg) {m : Meth} {k : Nat} (h : getLevel m = some k) (t : Str) :
    bodyOf cfg [⟨m, t, false⟩] = if cfg.level ≤ k then [paint cfg.colors m t] else [] := by
  rw [bodyOf_single, keep, passes_level _ k m h]
  simp only [decide_eq_true_eq]

theorem exec_evalOps (cfg : Cfg) (c : Conf) (pi : PolicyInfo) (res : Pol.St) (o : List (List Str)) :
    exec cfg (evalOpsOf cfg c pi res) (quiet [] [] false o) = quiet (closedEntriesOf cfg c pi res) [] false o := by
  unfold evalOpsOf closedEntriesOf
  by_cases hj : cfg.json = true
  · -- JSON: one call, shown at every level
    rw [if_pos hj, if_pos hj, exec_one, stepG_print_quiet, bodyOf_single]
    simp [keep, passes, paint_info]
  rw [if_neg hj, if_neg hj, List.append_assoc, verdict_note_ops]
  -- the three `info` calls (host, policy, `Result: `), each by `stepG_print_quiet`; the third does not end its line
  simp only [List.cons_append, List.nil_append, exec_cons, stepG_print_quiet, bodyOf_single, keep, paint_info, Bool.true_or, Bool.false_or]
  by_cases h0 : cfg.level = 0
  · -- level 0: everything is shown, and the verdict continues the line `Result: ` left open
    have hall : ∀ m, passes cfg.level m false = true := fun m => h0 ▸ keep_zero ⟨m, [], false⟩
    rw [hall]
    simp only [if_true, Bool.not_true]
    rw [stepG_print_open, if_pos (hall _), appendToLast_concat]
    simp only
    rw [exec_items, if_neg Bool.false_ne_true, if_pos h0, bodyOf, h0, filter_keep_zero]
    unfold verdictEntries0 noteEntries
    cases res.1 <;> cases pi.outdated <;> rfl
  · -- above: nothing of level `info` is shown, so no line is left open and the verdict is a call like those after it
    have hi : passes cfg.level .info false = false := by
      rw [passes_level _ 0 _ rfl]
      exact decide_eq_false fun h => h0 (Nat.le_zero.mp h)
    rw [hi]
    simp only [Bool.false_eq_true, if_false, List.append_nil, Bool.not_false]
    rw [show (⟨[], [], false, true, o, none⟩ : Buf) = quiet [] [] false o from rfl, stepG_print_quiet, Bool.true_or, exec_items,
      if_neg Bool.false_ne_true, if_neg h0]
    -- left: `bodyOf` of the verdict, the errors block, the note.  By `bodyOf_level` a `good` text survives at level 0 only, `warn` up to 1, `fail` up to 2:
    -- at level 1 `Failed!`, the errors and the note; at level 2 `Failed!`; above nothing
    have hgood := bodyOf_level cfg (m := .good) (k := 0) rfl
    have hwarn := bodyOf_level cfg (m := .warn) (k := 1) rfl
    have hfail := bodyOf_level cfg (m := .fail) (k := 2) rfl
    have hnone : bodyOf cfg [] = [] := rfl
    unfold noteEntries
    rw [bodyOf_append, apply_ite (bodyOf cfg), apply_ite (bodyOf cfg)]
    match hl : cfg.level with
    | 0 => exact absurd hl h0
    | 1 | 2 | n + 3 => cases res.1 <;> simp [hgood, hwarn, hfail, hnone, hl]

/-! ### what `output()` hands to the buffer on the error path: every text starts with `(`, a blank, `#` or a newline -/

def opText : Op → Option Str
  | .print _ t _ _ => some t
  | .head t _ => some t
  | .close t _ => some t
  | .v t _ => some t
  | .d t _ => some t
  | _ => none

/-- first character is one of those `output()` starts its lines with -/
def reportHead (t : Str) : Prop := t.head? = some '(' ∨ t.head? = some ' ' ∨ t.head? = some '#' ∨ t.head? = some '\n'

theorem noteLine_head (v : Bool) (l : Report.AlgLine) (pad : Str) (first : Bool) (n : Report.Note) (t : Str)
    (h : noteLine v (algLead l) pad first n = some t) : reportHead t := by
  revert h
  fun_cases noteLine v (algLead l) pad first n
  · -- a first line starts with the lead, `(`
    intro h
    obtain rfl := Option.some.inj h
    exact Or.inl rfl
  · -- a later line is indented by the lead's length, at least one blank
    intro h
    obtain rfl := Option.some.inj h
    refine Or.inr (Or.inl ?_)
    simp [algLead, spaces, List.replicate_succ]
  · nofun

theorem notePair_head (cfg : Cfg) (inp : Input) (l : Report.AlgLine) (first : Bool) (n : Report.Note) :
    ∀ pr ∈ notePair cfg inp l first n, reportHead pr.2.text := by
  fun_cases notePair cfg inp l first n with
  | case1 t ht => exact List.forall_mem_singleton.mpr (noteLine_head _ _ _ _ _ _ ht)
  | case2 => exact List.forall_mem_nil _

theorem algItems_head (cfg : Cfg) (inp : Input) (ls : List Report.AlgLine) : ∀ it ∈ algItems cfg inp ls, reportHead it.text := by
  unfold algItems
  simp only [List.forall_mem_flatMap, List.forall_mem_map]
  intro l _
  fun_cases algPairs cfg inp l
  · exact List.forall_mem_nil _
  · exact List.forall_mem_append.mpr ⟨notePair_head cfg inp l _ _, List.forall_mem_flatMap.mpr fun m _ => notePair_head cfg inp l _ m⟩

theorem reportHead_append {a : Str} (t : Str) (h : reportHead a) : reportHead (a ++ t) := by
  cases a with
  | nil => simp [reportHead] at h
  | cons c a => exact h

theorem not_reportHead {t : Str} {c : Char} (h : t.head? = some c) (hc : c ≠ '(' ∧ c ≠ ' ' ∧ c ≠ '#' ∧ c ≠ '\n') : ¬ reportHead t := by
  unfold reportHead
  rw [h]
  simp only [Option.some.injEq]
  exact fun hh => hh.elim hc.1 fun hh => hh.elim hc.2.1 fun hh => hh.elim hc.2.2.1 hc.2.2.2

/-- a literal that starts like a report line; stated for `String.ofList l`, which is how the kernel reads a literal (see `decode_literals`) -/
theorem reportHead_s (l : List Char) (h : l.head? = some '(' ∨ l.head? = some ' ' ∨ l.head? = some '#' ∨ l.head? = some '\n') :
    reportHead (Report.s (String.ofList l)) := by
  rw [Report.s, String.toList_ofList]
  exact h

theorem reportHead_s_append (l : List Char) (t : Str)
    (h : l.head? = some '(' ∨ l.head? = some ' ' ∨ l.head? = some '#' ∨ l.head? = some '\n') : reportHead (Report.s (String.ofList l) ++ t) :=
  reportHead_append t (reportHead_s l h)

theorem reportHead_singleton {m : Meth} {a : Bool} {x : Str} (h : reportHead x) :
    ∀ it ∈ [({ meth := m, text := x, always := a } : Item)], reportHead it.text :=
  List.forall_mem_singleton.mpr h

theorem generalItems_head (inp : Input) : ∀ it ∈ generalItems inp, reportHead it.text := by
  unfold generalItems
  simp only [List.forall_mem_append]
  -- six pieces: target, client IP, header, banner, compatibility, compression; all but the banner's are one optional `(gen) …` line
  refine ⟨⟨⟨⟨⟨?_, ?_⟩, ?_⟩, ?banner⟩, ?_⟩, ?_⟩
  case banner =>
    split
    · simp only [List.forall_mem_append]
      refine ⟨⟨?_, ?_⟩, ?_⟩
      · split
        · simp only [List.forall_mem_cons]
          exact ⟨reportHead_s_append _ _ (by decide), reportHead_s _ (by decide), List.forall_mem_nil _⟩
        · exact reportHead_singleton (reportHead_s_append _ _ (by decide))
      · split
        · exact List.forall_mem_nil _
        · exact reportHead_singleton (reportHead_s _ (by decide))
      · split
        · exact reportHead_singleton (reportHead_s_append _ _ (by decide))
        · exact List.forall_mem_nil _
    · exact List.forall_mem_nil _
  all_goals
    split
    · exact reportHead_singleton (reportHead_s_append _ _ (by decide))
    · exact List.forall_mem_nil _

theorem securityItems_head (cfg : Cfg) (inp : Input) : ∀ it ∈ securityItems cfg inp, reportHead it.text := by
  fun_cases securityItems cfg inp
  · simp only [List.append_assoc]
    exact reportHead_singleton (reportHead_s_append _ _ (by decide))
  · exact List.forall_mem_nil _
  · exact List.forall_mem_nil _

theorem fpItems_head (cfg : Cfg) (f : Fp) : ∀ it ∈ fpItems cfg f, reportHead it.text := by
  have h : ∀ t, reportHead (Report.s "(fin) " ++ t) := fun t => reportHead_s_append _ t (by decide)
  fun_cases fpItems cfg f
  all_goals simp [h]

theorem recItem_head (cfg : Cfg) (inp : Input) (r : Report.Rec) : reportHead (recItem cfg inp r).text := by
  simp only [recItem, List.append_assoc]
  exact reportHead_s_append _ _ (by decide)

theorem infoItems_head (inp : Input) : ∀ it ∈ infoItems inp, reportHead it.text := by
  unfold infoItems
  simp only [List.forall_mem_append, List.forall_mem_map]
  -- the PuTTY line, the hardening-guide line, then one `(nfo) …` line per note
  refine ⟨⟨?_, ?_⟩, fun n _ => reportHead_s_append _ _ (by decide)⟩
  all_goals
    split
    · exact reportHead_singleton (reportHead_s _ (by decide))
    · exact List.forall_mem_nil _

theorem sections_head (cfg : Cfg) (inp : Input) : ∀ sc ∈ sections cfg inp, reportHead sc.title ∧ ∀ it ∈ sc.items, reportHead it.text := by
  unfold sections
  simp only [List.forall_mem_append, List.forall_mem_cons]
  refine ⟨⟨?first, ?algs⟩, ?last⟩
  case first =>
    -- `# general`, `# security`
    exact ⟨⟨reportHead_s _ (by decide), generalItems_head inp⟩, ⟨reportHead_s _ (by decide), securityItems_head cfg inp⟩, List.forall_mem_nil _⟩
  case algs =>
    -- with a KEXINIT, the four algorithm sections
    split
    · simp only [List.forall_mem_cons]
      exact ⟨⟨reportHead_s _ (by decide), algItems_head cfg inp _⟩, ⟨reportHead_s _ (by decide), algItems_head cfg inp _⟩,
        ⟨reportHead_s _ (by decide), algItems_head cfg inp _⟩, ⟨reportHead_s _ (by decide), algItems_head cfg inp _⟩, List.forall_mem_nil _⟩
    · exact List.forall_mem_nil _
  case last =>
    -- `# fingerprints`, `# algorithm recommendations …`, `# additional info`
    exact ⟨⟨reportHead_s _ (by decide), List.forall_mem_flatMap.mpr fun f _ => fpItems_head cfg f⟩,
      ⟨reportHead_s_append _ _ (by decide), List.forall_mem_map.mpr fun r _ => recItem_head cfg inp r⟩,
      ⟨reportHead_s _ (by decide), infoItems_head inp⟩, List.forall_mem_nil _⟩

theorem outputOps_texts (cfg : Cfg) (inp : Input) : ∀ op ∈ outputOps cfg inp, ∀ t, opText op = some t → t = jsonDoc cfg inp ∨ reportHead t := by
  intro op hop t ht
  unfold outputOps at hop
  rcases List.mem_append.mp hop with h | h
  · obtain ⟨sc, hsc, hops⟩ := List.mem_flatMap.mp h
    obtain ⟨htitle, hitems⟩ := sections_head cfg inp sc hsc
    unfold Sec.ops at hops
    simp only [List.mem_append, List.mem_cons, List.mem_map, List.not_mem_nil, or_false] at hops
    rcases hops with (rfl | ⟨it, hit, rfl⟩) | rfl | rfl
    · cases ht
    · cases ht
      exact Or.inr (hitems it hit)
    · cases ht
    · cases ht
      exact Or.inr htitle
  · unfold finalOps at h
    split at h
    · simp only [List.mem_cons, List.not_mem_nil, or_false] at h
      rcases h with rfl | rfl
      · cases ht
      · cases ht
        exact Or.inl rfl
    · split at h
      · cases List.mem_singleton.mp h
        obtain rfl := Option.some.inj ht
        unfold unknownText
        exact Or.inr (reportHead_append _ (reportHead_append _ (reportHead_s _ (by decide))))
      · cases h

theorem find?_name {tbl : List BuiltinPolicy} {n : Str} {b : BuiltinPolicy} (hf : tbl.find? (·.name = n) = some b) : b ∈ tbl ∧ b.name = n :=
  ⟨List.mem_of_find?_eq_some hf, by simpa using List.find?_some hf⟩

theorem loadBuiltin_eq_ok (tbl : List BuiltinPolicy) (n : Str) (l : Loaded) :
    loadBuiltin tbl n = some (.ok l) ↔ ∃ b nxt, tbl.find? (·.name = n) = some b ∧ nextVersionName n b.version = some nxt ∧
      l = { info := { policy := ofBuiltin b, nameAndVersion := nameAndVersion (sliceTo n (rfindSub (s " (") n)) b.version,
                      outdated := tbl.any (·.name = nxt) },
            name := sliceTo n (rfindSub (s " (") n), version := b.version, server := b.serverPolicy } := by
  fun_cases loadBuiltin tbl n with
  | case1 hb => simp [hb]
  | case2 b hb hn => simp [hb, hn]
  | case3 b hb _ nxt hn =>
    simp only [hb, hn, Option.some.injEq, Except.ok.injEq, exists_and_left, exists_eq_left']
    exact eq_comm

end SshAudit.PolicyAudit
