/- `Model/Wire`: base-256 digits and fixed-width fields.  Every reader looks at a buffer that begins with a complete field (`field_prefix`); a
   `do` block in `Except` is inverted with `bind_eq_ok` and walked with `bind_rt`, one field at a time, by the round trips of `Props/C10`
   (`byte_rt`, `bool_rt`, `u32_rt`, `string_rt`, `namelist_rt`, `mpint1_rt`, `mpint2_rt`). -/
import SshAudit.Model.Wire
namespace SshAudit.Wire

theorem bind_eq_ok {x : Except ε α} {f : α → Except ε β} {b : β} : (x >>= f) = .ok b ↔ ∃ a, x = .ok a ∧ f a = .ok b := by
  cases x with
  | error e => exact ⟨fun h => (nomatch h), fun ⟨_, h, _⟩ => (nomatch h)⟩
  | ok a => exact ⟨fun h => ⟨a, rfl, h⟩, fun ⟨_, h, h'⟩ => by cases h; exact h'⟩

/-- the step of a field-by-field round trip: `refine bind_rt (C10.u32_rt _ _ _ e) ?_` -/
theorem bind_rt {r : Except ε α} {x : α} (h : r = .ok x) {k : α → Except ε β} {y : β} (hk : k x = .ok y) : (r >>= k) = .ok y := by
  rw [h]; exact hk

theorem ok_bind (a : α) (f : α → Except ε β) : (Except.ok a >>= f) = f a := rfl
theorem pure_eq_ok (a : α) : (pure a : Except ε α) = .ok a := rfl

theorem ofBE_append_single (bs : List Nat) (b : Nat) : ofBE (bs ++ [b]) = ofBE bs * 256 + b := by
  simp [ofBE, List.foldl_append]

theorem ofBE_foldl_acc (a : Nat) (ds : List Nat) :
    ds.foldl (fun a b => a * 256 + b) a = a * 256 ^ ds.length + ds.foldl (fun a b => a * 256 + b) 0 := by
  induction ds generalizing a with
  | nil => simp
  | cons d ds ih =>
    simp only [List.foldl_cons, List.length_cons]
    rw [ih (a * 256 + d), ih (0 * 256 + d)]
    simp [Nat.pow_succ, Nat.add_mul, Nat.mul_assoc, Nat.mul_comm 256, Nat.add_assoc]

theorem ofBE_append (as bs : List Nat) : ofBE (as ++ bs) = ofBE as * 256 ^ bs.length + ofBE bs := by
  unfold ofBE
  rw [List.foldl_append, ofBE_foldl_acc]

theorem ofBE_cons (b : Nat) (bs : List Nat) : ofBE (b :: bs) = b * 256 ^ bs.length + ofBE bs := by
  have := ofBE_append [b] bs
  simpa [ofBE] using this

theorem ofBE_lt (ds : List Nat) (h : ∀ d ∈ ds, d < 256) : ofBE ds < 256 ^ ds.length := by
  induction ds with
  | nil => exact Nat.one_pos
  | cons d ds ih =>
    have hd : d + 1 ≤ 256 := h d (List.mem_cons_self ..)
    have ih' := ih (fun x hx => h x (List.mem_cons_of_mem _ hx))
    rw [ofBE_cons, List.length_cons, Nat.pow_succ]
    calc d * 256 ^ ds.length + ofBE ds < (d + 1) * 256 ^ ds.length := by rw [Nat.add_mul, Nat.one_mul]; exact Nat.add_lt_add_left ih' _
      _ ≤ 256 * 256 ^ ds.length := Nat.mul_le_mul_right _ hd
      _ = 256 ^ ds.length * 256 := Nat.mul_comm _ _

@[simp] theorem toBE_length (m L : Nat) : (toBE m L).length = L := by
  induction L generalizing m with
  | zero => simp [toBE]
  | succ L ih => simp [toBE, ih]

theorem ofBE_toBE (m L : Nat) : ofBE (toBE m L) = m % 256 ^ L := by
  induction L generalizing m with
  | zero => exact (Nat.mod_one m).symm
  | succ L ih => rw [toBE, ofBE_append_single, ih, Nat.pow_succ, Nat.mul_comm (256 ^ L), Nat.mod_mul, Nat.add_comm, Nat.mul_comm]

theorem toBE_lt (m L : Nat) : ∀ b ∈ toBE m L, b < 256 := by
  induction L generalizing m with
  | zero => exact fun _ h => nomatch h
  | succ L ih => exact List.forall_mem_append.mpr ⟨ih _, List.forall_mem_singleton.mpr (Nat.mod_lt _ (by decide))⟩

/-- most significant digit first -/
theorem toBE_cons (m L : Nat) : toBE m (L+1) = (m / 256 ^ L % 256) :: toBE m L := by
  induction L generalizing m with
  | zero => simp [toBE]
  | succ L ih =>
    rw [toBE, ih, List.cons_append, Nat.div_div_eq_div_mul, Nat.mul_comm, ← Nat.pow_succ]
    rfl

theorem toBE_head (m L : Nat) : (toBE m (L+1)).head? = some (m / 256 ^ L % 256) := by rw [toBE_cons]; rfl

theorem uint8_ofNat_beq (a : Nat) (c : Nat) (ha : a < 256) (hc : c < 256) : (UInt8.ofNat a == UInt8.ofNat c) = decide (a = c) := by
  rw [Bool.beq_eq_decide_eq]
  refine decide_eq_decide.mpr ⟨fun h => ?_, congrArg _⟩
  rw [← UInt8.toNat_ofNat_of_lt' ha, ← UInt8.toNat_ofNat_of_lt' hc, h]

theorem natsOf_bytesOf (ds : List Nat) (h : ∀ d ∈ ds, d < 256) : natsOf (bytesOf ds) = ds := by
  rw [natsOf, bytesOf, List.map_map]
  exact (List.map_congr_left fun d hd => UInt8.toNat_ofNat_of_lt' (h d hd)).trans (List.map_id ds)

@[simp] theorem bytesOf_length (ds : List Nat) : (bytesOf ds).length = ds.length := by simp [bytesOf]
@[simp] theorem natsOf_length (bs : Bytes) : (natsOf bs).length = bs.length := by simp [natsOf]

theorem natsOf_lt (bs : Bytes) : ∀ d ∈ natsOf bs, d < 256 :=
  List.forall_mem_map.mpr fun b _ => b.toNat_lt

theorem ofBE_field {v L : Nat} (h : v < 256 ^ L) : ofBE (natsOf (bytesOf (toBE v L))) = v := by
  rw [natsOf_bytesOf _ (toBE_lt v L), ofBE_toBE, Nat.mod_eq_of_lt h]

theorem field_length (v L : Nat) : (bytesOf (toBE v L)).length = L := by rw [bytesOf_length, toBE_length]

theorem natsOf_append (a b : Bytes) : natsOf (a ++ b) = natsOf a ++ natsOf b := by simp [natsOf]

theorem writeInt_ok {v : Nat} {b : Bytes} (h : writeInt v = .ok b) : v < 2 ^ 32 ∧ b = bytesOf (toBE v 4) := by
  unfold writeInt at h
  split at h
  · next hv => cases h; exact ⟨hv, rfl⟩
  · cases h

theorem writeString_ok {s b : Bytes} (h : writeString s = .ok b) : ∃ hd, writeInt s.length = .ok hd ∧ b = hd ++ s := by
  simp only [writeString, bind_eq_ok, pure_eq_ok, Except.ok.injEq] at h
  obtain ⟨hd, hw, rfl⟩ := h
  exact ⟨hd, hw, rfl⟩

theorem writeInt_length {v : Nat} {b : Bytes} (h : writeInt v = .ok b) : b.length = 4 := by
  rw [(writeInt_ok h).2, field_length]

/-- what `read_int`, and the packet readers that inline it, look at: the length test, the field, the rest -/
theorem field_prefix {hd : Bytes} {L : Nat} (h : hd.length = L) (rest : Bytes) :
    ¬ (hd ++ rest).length < L ∧ (hd ++ rest).take L = hd ∧ (hd ++ rest).drop L = rest :=
  ⟨by rw [List.length_append, h]; exact Nat.not_lt.mpr (Nat.le_add_right L _), List.take_left' h, List.drop_left' h⟩

theorem readInt_append {hd : Bytes} (h : hd.length = 4) (rest : Bytes) : readInt (hd ++ rest) = .ok (ofBE (natsOf hd), rest) := by
  obtain ⟨h1, h2, h3⟩ := field_prefix h rest
  rw [readInt, if_neg h1, h2, h3]

theorem readMpint1_append {hd : Bytes} (h : hd.length = 2) (r : Bytes) :
    readMpint1 (hd ++ r) = .ok (ofBE (natsOf (r.take ((ofBE (natsOf hd) + 7) / 8))), r.drop ((ofBE (natsOf hd) + 7) / 8)) := by
  obtain ⟨h1, h2, h3⟩ := field_prefix h r
  rw [readMpint1, if_neg h1, h2, h3]

theorem bitLen_le_iff (n k : Nat) : bitLen n ≤ k ↔ n < 2 ^ k := by
  unfold bitLen
  split
  · next h => rw [h]; exact ⟨fun _ => Nat.two_pow_pos k, fun _ => Nat.zero_le k⟩
  · next h => exact Nat.log2_lt h

theorem lt_two_pow_bitLen (m : Nat) : m < 2 ^ bitLen m := (bitLen_le_iff m _).mp (Nat.le_refl _)

theorem bitLen_pos_of_pos (n : Nat) (h : 0 < n) : 0 < bitLen n := by
  unfold bitLen; rw [if_neg (by omega)]; omega

theorem two_pow_le_of_bitLen (m : Nat) (h : m ≠ 0) : 2 ^ (bitLen m - 1) ≤ m := by
  unfold bitLen
  simp only [h, if_false, Nat.add_sub_cancel]
  exact Nat.log2_self_le h

theorem bitLen_mono (a b : Nat) (h : a ≤ b) : bitLen a ≤ bitLen b :=
  (bitLen_le_iff a _).mpr (Nat.lt_of_le_of_lt h (lt_two_pow_bitLen b))

/-- a comma-free prefix goes to the first piece -/
theorem splitComma_append (p : Bytes) (hp : comma ∉ p) {s q : Bytes} {qs : List Bytes} (hs : splitComma s = q :: qs) :
    splitComma (p ++ s) = (p ++ q) :: qs := by
  induction p with
  | nil => exact hs
  | cons x xs ih =>
    have hx : x ≠ comma := by intro h; apply hp; simp [h]
    have hxs : comma ∉ xs := by intro h; apply hp; simp [h]
    simp [splitComma, hx, ih hxs]

theorem split_join (ps : List Bytes) (hne : ps ≠ []) (h : ∀ p ∈ ps, comma ∉ p) :
    splitComma (joinComma ps) = ps := by
  fun_induction joinComma ps with
  | case1 => exact absurd rfl hne
  | case2 p => simpa using splitComma_append p (h p List.mem_cons_self) (s := []) rfl
  | case3 p ps hps ih =>
    have ih' := ih hps (fun x hx => h x (List.mem_cons_of_mem _ hx))
    rw [List.append_assoc, splitComma_append p (h p List.mem_cons_self) (q := []) (qs := ps) (by simp [splitComma, ih']), List.append_nil]

theorem splitComma_ne_nil (l : Bytes) : splitComma l ≠ [] := by
  fun_cases splitComma l <;> exact List.cons_ne_nil _ _

theorem join_split (l : Bytes) : joinComma (splitComma l) = l := by
  induction l with
  | nil => rfl
  | cons x xs ih =>
    obtain ⟨q, qs, hs⟩ := List.exists_cons_of_ne_nil (splitComma_ne_nil xs)
    rw [hs] at ih
    rw [splitComma, hs, ← ih]
    split
    · next hx => rw [hx]; rfl
    · cases qs <;> rfl

theorem readList_ok_ne (r : Bytes) (x : List Bytes × Bytes) (h : readList r = .ok x) : r ≠ [] := by
  intro hr; subst hr
  cases h

theorem readBool_ok_ne (r : Bytes) (x : Bool × Bytes) (h : readBool r = .ok x) : r ≠ [] := by
  intro hr; subst hr
  cases h

end SshAudit.Wire
