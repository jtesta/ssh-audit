/-
  `json.loads` reads back what `json.dumps` writes: one induction over the value, for every white-space layout at once, with fuel for
  every character of the text.  `sort_keys` is a stable insertion sort.  In the documents `build_struct` builds the keys of each dict are
  a selection of a fixed list of distinct keys; that the list has no repetition is decided once per dict shape, the one place where key
  texts are compared, and `Val.NoDup` of the documents and every field read (`Val.get_of_mem`) rest on it.
  To build on: `loads_render` (round trip), `render_chars` (characters), `sortKeys_spec` (sorting), `Val.get_cons` / `Val.get_of_mem` (reads), `noDup_obj` (documents).
-/
import SshAudit.Lemmas.Json
import SshAudit.Model.JsonDoc
namespace SshAudit.JsonDoc
open SshAudit SshAudit.PolicyFile.Json

def AllWs (w : Str) : Prop := ∀ c ∈ w, isWs c = true

def Fmt.Ws (fm : Fmt) : Prop := ∀ n, AllWs (fm.opn n) ∧ AllWs (fm.sep n) ∧ AllWs (fm.cls n)

def StrictSorted (l : List (Str × Val)) : Prop := l.Pairwise (fun a b => Text.ltStr a.1 b.1 = true)
/-- what `insertKV` keeps on the way: equal keys allowed, in core's order on `Str` (`Text.ltStr_iff` relates the two orders) -/
def Sorted (l : List (Str × Val)) : Prop := l.Pairwise (fun a b => a.1 ≤ b.1)

mutual
def KeysAscending : Val → Prop
  | .arr xs => KeysAscendingL xs
  | .obj kvs => StrictSorted kvs ∧ KeysAscendingM kvs
  | _ => True
def KeysAscendingL : List Val → Prop
  | [] => True
  | x :: r => KeysAscending x ∧ KeysAscendingL r
def KeysAscendingM : List (Str × Val) → Prop
  | [] => True
  | (_, v) :: r => KeysAscending v ∧ KeysAscendingM r
end

mutual
/-- the Python value of a parse tree: every object becomes a `dict` (`PolicyFile.Json.dictOf`: last value, first position) -/
def pyNorm : JV → JV
  | .arr xs => .arr (pyNormL xs)
  | .obj kvs => .obj (dictOf (pyNormM kvs))
  | .null => .null
  | .bool b => .bool b
  | .int i => .int i
  | .float => .float
  | .str v => .str v
def pyNormL : List JV → List JV
  | [] => []
  | x :: r => pyNorm x :: pyNormL r
def pyNormM : List (Str × JV) → List (Str × JV)
  | [] => []
  | (k, v) :: r => (k, pyNorm v) :: pyNormM r
end

mutual
theorem Val.ind {P : Val → Prop} (hnull : P .null) (hbool : ∀ b, P (.bool b)) (hint : ∀ i, P (.int i)) (hstr : ∀ v, P (.str v))
    (harr : ∀ xs, (∀ x ∈ xs, P x) → P (.arr xs)) (hobj : ∀ kvs, (∀ kv ∈ kvs, P kv.2) → P (.obj kvs)) : ∀ v, P v
  | .null => hnull
  | .bool b => hbool b
  | .int i => hint i
  | .str v => hstr v
  | .arr xs => harr xs (Val.indL hnull hbool hint hstr harr hobj xs)
  | .obj kvs => hobj kvs (Val.indM hnull hbool hint hstr harr hobj kvs)
theorem Val.indL {P : Val → Prop} (hnull : P .null) (hbool : ∀ b, P (.bool b)) (hint : ∀ i, P (.int i)) (hstr : ∀ v, P (.str v))
    (harr : ∀ xs, (∀ x ∈ xs, P x) → P (.arr xs)) (hobj : ∀ kvs, (∀ kv ∈ kvs, P kv.2) → P (.obj kvs)) : ∀ xs : List Val, ∀ x ∈ xs, P x
  | [], _, h => nomatch h
  | y :: r, x, h => by
    rcases List.mem_cons.mp h with e | e
    · exact e ▸ Val.ind hnull hbool hint hstr harr hobj y
    · exact Val.indL hnull hbool hint hstr harr hobj r x e
theorem Val.indM {P : Val → Prop} (hnull : P .null) (hbool : ∀ b, P (.bool b)) (hint : ∀ i, P (.int i)) (hstr : ∀ v, P (.str v))
    (harr : ∀ xs, (∀ x ∈ xs, P x) → P (.arr xs)) (hobj : ∀ kvs, (∀ kv ∈ kvs, P kv.2) → P (.obj kvs)) :
    ∀ kvs : List (Str × Val), ∀ kv ∈ kvs, P kv.2
  | [], _, h => nomatch h
  | (k, v) :: r, x, h => by
    rcases List.mem_cons.mp h with e | e
    · exact e ▸ Val.ind hnull hbool hint hstr harr hobj v
    · exact Val.indM hnull hbool hint hstr harr hobj r x e
end

theorem toJVs_eq (xs : List Val) : toJVs xs = xs.map toJV := by
  induction xs with
  | nil => rfl
  | cons x r ih => simp [toJVs, ih]

theorem toJVm_eq (kvs : List (Str × Val)) : toJVm kvs = kvs.map (fun kv => (kv.1, toJV kv.2)) := by
  induction kvs with
  | nil => rfl
  | cons x r ih => obtain ⟨k, v⟩ := x; simp [toJVm, ih]

theorem sortKeysL_eq (xs : List Val) : sortKeysL xs = xs.map sortKeys := by
  induction xs with
  | nil => rfl
  | cons x r ih => simp [sortKeysL, ih]

theorem sortKeysM_eq (kvs : List (Str × Val)) : sortKeysM kvs = kvs.map (fun kv => (kv.1, sortKeys kv.2)) := by
  induction kvs with
  | nil => rfl
  | cons x r ih => obtain ⟨k, v⟩ := x; simp [sortKeysM, ih]

theorem toJVm_keys (kvs : List (Str × Val)) : (toJVm kvs).map (·.1) = kvs.map (·.1) := by
  rw [toJVm_eq, List.map_map]; rfl

theorem sortKeysM_keys (kvs : List (Str × Val)) : (sortKeysM kvs).map (·.1) = kvs.map (·.1) := by
  rw [sortKeysM_eq, List.map_map]; rfl

def Fmt.Chars (fm : Fmt) (Q : Char → Prop) : Prop := ∀ n, (∀ c ∈ fm.opn n, Q c) ∧ (∀ c ∈ fm.sep n, Q c) ∧ (∀ c ∈ fm.cls n, Q c)

section
variable {fm : Fmt} {Q : Char → Prop}

theorem Fmt.Ws.opn (h : fm.Ws) (n : Nat) : AllWs (fm.opn n) := (h n).1
theorem Fmt.Ws.sep (h : fm.Ws) (n : Nat) : AllWs (fm.sep n) := (h n).2.1
theorem Fmt.Ws.cls (h : fm.Ws) (n : Nat) : AllWs (fm.cls n) := (h n).2.2
theorem Fmt.Chars.opn (h : fm.Chars Q) (n : Nat) : ∀ c ∈ fm.opn n, Q c := (h n).1
theorem Fmt.Chars.sep (h : fm.Chars Q) (n : Nat) : ∀ c ∈ fm.sep n, Q c := (h n).2.1
theorem Fmt.Chars.cls (h : fm.Chars Q) (n : Nat) : ∀ c ∈ fm.cls n, Q c := (h n).2.2

end

theorem Fmt.Chars.mono {fm : Fmt} {Q Q' : Char → Prop} (h : fm.Chars Q) (hq : ∀ c, Q c → Q' c) : fm.Chars Q' :=
  fun n => ⟨fun c hc => hq c (h.opn n c hc), fun c hc => hq c (h.sep n c hc), fun c hc => hq c (h.cls n c hc)⟩

theorem compact_chars : compact.Chars (· = ' ') :=
  fun _ => ⟨(fun _ h => nomatch h), fun _ h => List.mem_singleton.mp h, fun _ h => nomatch h⟩

theorem indent4_chars : indent4.Chars (fun c => c = '\n' ∨ c = ' ') := by
  have hnl : ∀ n, ∀ c ∈ nl n, c = '\n' ∨ c = ' ' := by
    intro n c hc
    simp only [nl, List.mem_cons, List.mem_replicate] at hc
    exact hc.imp_right (·.2)
  exact fun n => ⟨hnl n, hnl n, hnl (n - 1)⟩

theorem compact_ws : compact.Ws := compact_chars.mono fun _ h => h ▸ rfl
theorem indent4_ws : indent4.Ws := indent4_chars.mono fun _ h => by rcases h with rfl | rfl <;> rfl

theorem skipWs_ws_nil (w : Str) (hw : AllWs w) : skipWs w = [] := Text.dropWhile_of_all hw

theorem parseValue_int (f : Nat) (i : Int) (rest : Str) (hr : NumEnd rest) :
    parseValue (f + 1) (dumpInt i ++ rest) = .ok (.int i, rest) := by
  cases i with
  | ofNat n => exact parseValue_nat f n rest hr
  | negSucc n => exact parseValue_negNat f (n + 1) rest hr

theorem render_head (fm : Fmt) (n : Nat) (v : Val) : ∃ c r, render fm n v = c :: r ∧ isWs c = false ∧ c ≠ ']' := by
  fun_cases render fm n v with
  | case1 => exact ⟨'n', _, rfl, by decide⟩
  | case2 => exact ⟨'t', _, rfl, by decide⟩
  | case3 => exact ⟨'f', _, rfl, by decide⟩
  | case4 _ i =>
    cases i with
    | ofNat k =>
      obtain ⟨d, ds, e, hd⟩ := Text.natToStr_head_digit k
      exact ⟨d, ds, e, digit_not_ws hd, Text.isDigit_ne hd (by decide)⟩
    | negSucc k => exact ⟨'-', _, rfl, by decide⟩
  | case5 => exact ⟨'"', _, rfl, by decide⟩
  | case6 => exact ⟨'[', _, rfl, by decide⟩
  | case7 => exact ⟨'[', _, rfl, by decide⟩
  | case8 => exact ⟨'{', _, rfl, by decide⟩
  | case9 => exact ⟨'{', _, rfl, by decide⟩

mutual
/-- one unit per value and per list item of `v`; not used: the round trip bounds the fuel by the length of the text -/
def fuelV : Val → Nat
  | .arr xs => 1 + fuelL xs
  | .obj kvs => 1 + fuelM kvs
  | .null => 1
  | .bool _ => 1
  | .int _ => 1
  | .str _ => 1
def fuelL : List Val → Nat
  | [] => 0
  | x :: r => 1 + fuelV x + fuelL r
def fuelM : List (Str × Val) → Nat
  | [] => 0
  | (_, v) :: r => 1 + fuelV v + fuelM r
end

theorem fuelV_pos (v : Val) : 1 ≤ fuelV v := by cases v <;> simp [fuelV] <;> omega

theorem parseValue_null (f : Nat) (rest : Str) : parseValue (f + 1) (['n', 'u', 'l', 'l'] ++ rest) = .ok (.null, rest) := by
  simp [parseValue, s_null, List.isPrefixOf]

theorem parseValue_true (f : Nat) (rest : Str) : parseValue (f + 1) (['t', 'r', 'u', 'e'] ++ rest) = .ok (.bool true, rest) := by
  simp [parseValue, s_null, s_true, List.isPrefixOf]

theorem parseValue_false (f : Nat) (rest : Str) :
    parseValue (f + 1) (['f', 'a', 'l', 's', 'e'] ++ rest) = .ok (.bool false, rest) := by
  simp [parseValue, s_null, s_true, s_false, List.isPrefixOf]

theorem parseElems_last {f : Nat} {t : Str} {v : JV} {w rest : Str} (hw : AllWs w)
    (hv : parseValue f t = .ok (v, w ++ ']' :: rest)) : parseElems (f + 1) t = .ok ([v], rest) := by
  simp only [parseElems, hv, skipWs_ws w ']' rest hw (by decide), if_true]

theorem skipWs_render (fm : Fmt) (n : Nat) (v : Val) (t : Str) : skipWs (render fm n v ++ t) = render fm n v ++ t := by
  obtain ⟨c, r, hc, hst⟩ := render_head fm n v
  rw [hc]; exact skipWs_nonws c _ hst.1

theorem parseElems_more {f : Nat} {t : Str} {v : JV} {w more : Str} {vs : List JV} {rest : Str} (hw : AllWs w)
    (hmore : skipWs more = more) (hv : parseValue f t = .ok (v, ',' :: (w ++ more))) (hrest : parseElems f more = .ok (vs, rest)) :
    parseElems (f + 1) t = .ok (v :: vs, rest) := by
  have d1 : ¬ (',' = ']') := by decide
  simp only [parseElems, hv, skipWs_nonws ',' _ (by decide : isWs ',' = false), d1, if_false, if_true]
  rw [skipWs_append_ws hw, hmore, hrest]

/-- fuel for every character of the text suffices: the parser spends at most one unit per character -/
def Reads (fm : Fmt) (n : Nat) (v : Val) : Prop :=
  ∀ f rest, (render fm n v).length ≤ f → NumEnd rest → parseValue f (render fm n v ++ rest) = .ok (toJV v, rest)

theorem Reads.of_succ {fm : Fmt} {n : Nat} {v : Val}
    (h : ∀ f rest, (render fm n v).length ≤ f + 1 → NumEnd rest → parseValue (f + 1) (render fm n v ++ rest) = .ok (toJV v, rest)) :
    Reads fm n v := by
  intro f rest hf hr
  cases f with
  | zero =>
    obtain ⟨c, r, hc, _⟩ := render_head fm n v
    rw [hc] at hf; cases hf
  | succ f => exact h f rest hf hr

theorem numEnd_close {w : Str} (hw : AllWs w) {c : Char} {rest : Str} (hc : c = ']' ∨ c = '}') : NumEnd (w ++ c :: rest) := by
  have h : ∀ x, isWs x = true ∨ x = ']' ∨ x = '}' → Text.isDigit x = false ∧ x ≠ '.' ∧ x ≠ 'e' ∧ x ≠ 'E' := by
    intro x hx
    simp only [isWs, Bool.or_eq_true, decide_eq_true_eq] at hx
    rcases hx with (((h | h) | h) | h) | h | h <;> subst h <;> decide
  cases w with
  | nil => exact numEnd_cons c rest (h c (.inr hc))
  | cons x xs => exact numEnd_cons x _ (h x (.inl (hw x (by simp))))

theorem numEnd_comma (t : Str) : NumEnd (',' :: t) := numEnd_cons ',' t (by decide)

/-- along the recursion of `render`; the other two motives: the items after the first of a dict and of a list, behind any value that reads back -/
theorem reads (fm : Fmt) (hfm : fm.Ws) (n : Nat) (v : Val) : Reads fm n v := by
  refine (render.mutual_induct (Reads fm)
    (fun n r => ∀ k v, Reads fm n v → ∀ f, (render fm n v).length + (renderMems fm n r).length < f → ∀ rest,
      parseMembers f (dumpStr k ++ (colon ++ (render fm n v ++ (renderMems fm n r ++ (fm.cls n ++ '}' :: rest)))))
        = .ok ((k, toJV v) :: toJVm r, rest))
    (fun n r => ∀ x, Reads fm n x → ∀ f, (render fm n x).length + (renderElems fm n r).length < f → ∀ rest,
      parseElems f (render fm n x ++ (renderElems fm n r ++ (fm.cls n ++ ']' :: rest))) = .ok (toJV x :: toJVs r, rest))
    ?null ?bool_true ?bool_false ?int ?str ?arr_nil ?arr_cons ?obj_nil ?obj_cons ?elems_nil ?elems_cons ?mems_nil ?mems_cons).1 n v
  case null => exact fun n => .of_succ fun f rest _ _ => by rw [render]; exact parseValue_null f rest
  case bool_true => exact fun n => .of_succ fun f rest _ _ => by rw [render]; exact parseValue_true f rest
  case bool_false => exact fun n => .of_succ fun f rest _ _ => by rw [render]; exact parseValue_false f rest
  case int => exact fun n i => .of_succ fun f rest _ hr => by rw [render]; exact parseValue_int f i rest hr
  case str => exact fun n t => .of_succ fun f rest _ _ => by rw [render]; exact parseValue_str f t rest
  case arr_nil => exact fun n => .of_succ fun f rest _ _ => by rw [render]; exact parseValue_arr_empty (skipWs_nonws _ _ (by decide))
  case arr_cons =>
    intro n x r hx hr
    refine .of_succ fun f rest hf _ => ?_
    -- the parser looks at the first character after the bracket to tell an empty list: `c` is not `]`
    obtain ⟨c, cr, hc, hst⟩ := render_head fm (n + 1) x
    rw [render] at hf ⊢
    have := hr x hx f (by simp only [List.length_cons, List.length_append] at hf; omega) rest
    simp only [List.cons_append, List.append_assoc, List.nil_append]
    rw [hc] at this ⊢
    exact parseValue_arr_items (skipWs_ws _ _ _ (hfm.opn (n + 1)) hst.1) hst.2 this
  case obj_nil => exact fun n => .of_succ fun f rest _ _ => by rw [render]; exact parseValue_obj_empty (skipWs_nonws _ _ (by decide))
  case obj_cons =>
    intro n k v r hv hr
    refine .of_succ fun f rest hf _ => ?_
    rw [render] at hf ⊢
    simp only [List.cons_append, List.append_assoc, List.nil_append]
    exact parseValue_obj_items (skipWs_ws _ '"' _ (hfm.opn (n + 1)) (by decide)) (by decide)
      (hr k v hv f (by simp only [List.length_cons, List.length_append] at hf; omega) rest)
  case elems_nil =>
    intro n x hx f hf rest
    obtain ⟨f', rfl⟩ := Nat.exists_eq_add_one_of_ne_zero (Nat.ne_zero_of_lt hf)
    exact parseElems_last (hfm.cls n) (hx f' _ (Nat.le_of_lt_add_one (Nat.lt_of_add_right_lt hf)) (numEnd_close (hfm.cls n) (Or.inl rfl)))
  case elems_cons =>
    intro n y r hy hr x hx f hf rest
    obtain ⟨f', rfl⟩ := Nat.exists_eq_add_one_of_ne_zero (Nat.ne_zero_of_lt hf)
    simp only [renderElems, List.length_cons, List.length_append] at hf
    simp only [renderElems, List.cons_append, List.append_assoc]
    exact parseElems_more (hfm.sep n) (skipWs_render fm n y _) (hx f' _ (Nat.le_of_lt_add_one (Nat.lt_of_add_right_lt hf)) (numEnd_comma _)) (hr y hy f' (by omega) rest)
  case mems_nil =>
    intro n k v hv f hf rest
    obtain ⟨f', rfl⟩ := Nat.exists_eq_add_one_of_ne_zero (Nat.ne_zero_of_lt hf)
    exact parseMembers_last f' k _ (skipWs_render fm n v) (toJV v) (fm.cls n) rest (hfm.cls n)
      (hv f' _ (Nat.le_of_lt_add_one (Nat.lt_of_add_right_lt hf)) (numEnd_close (hfm.cls n) (Or.inr rfl)))
  case mems_cons =>
    intro n k2 v2 r hv2 hr k v hv f hf rest
    obtain ⟨f', rfl⟩ := Nat.exists_eq_add_one_of_ne_zero (Nat.ne_zero_of_lt hf)
    simp only [renderMems, List.length_cons, List.length_append] at hf
    simp only [renderMems, List.cons_append, List.append_assoc]
    exact parseMembers_more f' k _ (skipWs_render fm n v) (toJV v) (fm.sep n) _ _ rest (hfm.sep n) (skipWs_nonws '"' _ (by decide))
      (hv f' _ (Nat.le_of_lt_add_one (Nat.lt_of_add_right_lt hf)) (numEnd_comma _)) (hr k2 v2 hv2 f' (by omega) rest)

theorem loads_render (fm : Fmt) (hfm : fm.Ws) (v : Val) : loads (render fm 0 v) = .ok (toJV v) := by
  have := reads fm hfm 0 v (2 * (render fm 0 v).length + 2) [] (by omega) numEnd_nil
  have hs := skipWs_render fm 0 v []
  rw [List.append_nil] at this hs
  rw [loads, hs, this]
  rfl

theorem loads_docText (indent : Bool) (v : Val) : loads (docText indent v) = .ok (toJV (sortKeys v)) := by
  cases indent
  · exact loads_render compact compact_ws (sortKeys v)
  · exact loads_render indent4 indent4_ws (sortKeys v)

theorem toJV_inj (v w : Val) (h : toJV v = toJV w) : v = w := by
  induction v using Val.ind generalizing w with
  | hnull => cases w <;> simp [toJV] at h ⊢
  | hbool b => cases w <;> simp [toJV] at h ⊢; exact h
  | hint i => cases w <;> simp [toJV] at h ⊢; exact h
  | hstr t => cases w <;> simp [toJV] at h ⊢; exact h
  | harr xs ih =>
    cases w with
    | arr ys =>
      simp only [toJV, JV.arr.injEq, toJVs_eq] at h
      rw [Text.map_inj_of_mem ih h]
    | _ => simp [toJV] at h
  | hobj kvs ih =>
    cases w with
    | obj kvs' =>
      simp only [toJV, JV.obj.injEq, toJVm_eq] at h
      refine congrArg _ (Text.map_inj_of_mem (fun kv hkv kv' e => ?_) h)
      simp only [Prod.mk.injEq] at e
      exact Prod.ext e.1 (ih kv hkv _ e.2)
    | _ => simp [toJV] at h

theorem dumpInt_ascii (i : Int) : ∀ x ∈ dumpInt i, PrintableAscii x := by
  cases i with
  | ofNat n => exact natToStr_ascii n
  | negSucc n => exact List.forall_mem_cons.mpr ⟨by decide, natToStr_ascii _⟩

section
variable (fm : Fmt) (Q : Char → Prop) (hq : ∀ c, PrintableAscii c → Q c) (hfm : fm.Chars Q)
include hq hfm

/-- every character of a rendering is a printable ASCII character or one the layout writes -/
theorem render_chars (v : Val) (n : Nat) : ∀ c ∈ render fm n v, Q c := by
  have lit : ∀ l : Str, (∀ c ∈ l, PrintableAscii c) → ∀ c ∈ l, Q c := fun l hl c hc => hq c (hl c hc)
  -- along the recursion of `render`: the items of a dict and of a list after the first are the other two motives
  refine (render.mutual_induct (fun n v => ∀ c ∈ render fm n v, Q c) (fun n r => ∀ c ∈ renderMems fm n r, Q c)
    (fun n r => ∀ c ∈ renderElems fm n r, Q c)
    ?null ?bool_true ?bool_false ?int ?str ?arr_nil ?arr_cons ?obj_nil ?obj_cons ?elems_nil ?elems_cons ?mems_nil ?mems_cons).1 n v
  case null => intro n; rw [render]; exact lit _ (by decide)
  case bool_true => intro n; rw [render]; exact lit _ (by decide)
  case bool_false => intro n; rw [render]; exact lit _ (by decide)
  case int => intro n i; rw [render]; exact lit _ (dumpInt_ascii i)
  case str => intro n t; rw [render]; exact lit _ (dumpStr_ascii t)
  case arr_nil => intro n; rw [render]; exact lit _ (by decide)
  case arr_cons =>
    intro n x r hx hr
    rw [render]
    simp only [List.append_assoc, List.forall_mem_cons, List.forall_mem_append]
    exact ⟨hq _ (by decide), hfm.opn (n + 1), hx, hr, hfm.cls (n + 1), hq _ (by decide), fun _ h => nomatch h⟩
  case obj_nil => intro n; rw [render]; exact lit _ (by decide)
  case obj_cons =>
    intro n k v r hv hr
    rw [render]
    simp only [List.append_assoc, List.forall_mem_cons, List.forall_mem_append]
    exact ⟨hq _ (by decide), hfm.opn (n + 1), lit _ (dumpStr_ascii k), lit colon (by decide), hv, hr, hfm.cls (n + 1), hq _ (by decide),
      fun _ h => nomatch h⟩
  case elems_nil => exact fun _ _ hc => nomatch hc
  case elems_cons =>
    intro n x r hx hr
    simp only [renderElems, List.forall_mem_cons, List.forall_mem_append]
    exact ⟨hq _ (by decide), ⟨hfm.sep n, hx⟩, hr⟩
  case mems_nil => exact fun _ _ hc => nomatch hc
  case mems_cons =>
    intro n k v r hv hr
    simp only [renderMems, List.append_assoc, List.forall_mem_cons, List.forall_mem_append]
    exact ⟨hq _ (by decide), hfm.sep n, lit _ (dumpStr_ascii k), lit colon (by decide), hv, hr⟩

end

theorem insertKV_perm (kv : Str × Val) (l : List (Str × Val)) : (insertKV kv l).Perm (kv :: l) := by
  fun_induction insertKV kv l with
  | case1 => exact List.Perm.refl _
  | case2 x r _ ih => exact (List.Perm.cons x ih).trans (List.Perm.swap kv x r)
  | case3 => exact List.Perm.refl _

theorem sortKV_perm (l : List (Str × Val)) : (sortKV l).Perm l := by
  induction l with
  | nil => exact List.Perm.refl _
  | cons x r ih => exact (insertKV_perm x (sortKV r)).trans (List.Perm.cons x ih)

theorem insertKV_sorted (kv : Str × Val) (l : List (Str × Val)) (h : Sorted l) : Sorted (insertKV kv l) := by
  fun_induction insertKV kv l with
  | case1 => exact List.pairwise_singleton _ _
  | case2 x r hlt ih =>
    have hx := List.pairwise_cons.mp h
    refine List.pairwise_cons.mpr ⟨fun b hb => ?_, ih hx.2⟩
    rcases List.mem_cons.mp ((insertKV_perm kv r).mem_iff.mp hb) with rfl | e
    · exact Std.le_of_lt ((Text.ltStr_iff _ _).mp hlt)
    · exact hx.1 b e
  | case3 x r hnlt =>
    have hle : kv.1 ≤ x.1 := fun h => hnlt ((Text.ltStr_iff _ _).mpr h)
    refine List.pairwise_cons.mpr ⟨fun b hb => ?_, h⟩
    rcases List.mem_cons.mp hb with rfl | e
    · exact hle
    · exact Std.le_trans hle ((List.pairwise_cons.mp h).1 b e)

theorem sortKV_sorted (l : List (Str × Val)) : Sorted (sortKV l) := by
  induction l with
  | nil => exact List.Pairwise.nil
  | cons x r ih => exact insertKV_sorted x _ ih

theorem sortKV_keys_perm (l : List (Str × Val)) : ((sortKV l).map (·.1)).Perm (l.map (·.1)) := (sortKV_perm l).map _

theorem sortKV_strict (l : List (Str × Val)) (hnd : (l.map (·.1)).Nodup) : StrictSorted (sortKV l) := by
  have hne : (sortKV l).Pairwise (fun a b => a.1 ≠ b.1) := List.pairwise_map.mp ((sortKV_keys_perm l).nodup_iff.mpr hnd)
  exact ((sortKV_sorted l).and hne).imp fun h => (Text.ltStr_iff _ _).mpr (Std.lt_of_le_of_ne h.1 h.2)

/-- the sort is stable: equal keys included -/
theorem sortKV_of_sorted (l : List (Str × Val)) (h : Sorted l) : sortKV l = l := by
  induction l with
  | nil => rfl
  | cons x r ih =>
    have hx := List.pairwise_cons.mp h
    rw [sortKV, ih hx.2]
    fun_cases insertKV x r with
    | case1 => rfl
    | case2 y r' hlt => exact absurd ((Text.ltStr_iff _ _).mp hlt) (hx.1 y List.mem_cons_self)
    | case3 => rfl

theorem StrictSorted.lt {l : List (Str × Val)} (h : StrictSorted l) : (l.map (·.1)).Pairwise (· < ·) :=
  List.pairwise_map.mpr (h.imp (Text.ltStr_iff _ _).mp)

theorem sortKV_perm_eq (l l' : List (Str × Val)) (hp : l.Perm l') (hnd : (l.map (·.1)).Nodup) : sortKV l = sortKV l' :=
  Text.eq_of_perm_of_sorted ((sortKV_perm l).trans (hp.trans (sortKV_perm l').symm)) (sortKV_strict l hnd).lt
    (sortKV_strict l' ((hp.map _).nodup_iff.mp hnd)).lt

theorem mem_sortedItems {kvs : List (Str × Val)} {kv : Str × Val} (h : kv ∈ sortKV (sortKeysM kvs)) :
    ∃ x ∈ kvs, (x.1, sortKeys x.2) = kv := by
  rw [sortKeysM_eq] at h; exact List.mem_map.mp ((sortKV_perm _).mem_iff.mp h)

theorem sortKeys_idem (v : Val) : sortKeys (sortKeys v) = sortKeys v := by
  induction v using Val.ind with
  | hnull => rfl
  | hbool b => rfl
  | hint i => rfl
  | hstr t => rfl
  | harr xs ih =>
    simp only [sortKeys, sortKeysL_eq, List.map_map]
    exact congrArg _ (List.map_congr_left ih)
  | hobj kvs ih =>
    -- the values of the sorted items are sorted already, and a sorted item list stays as it is
    have hY : sortKeysM (sortKV (sortKeysM kvs)) = sortKV (sortKeysM kvs) := by
      rw [sortKeysM_eq (sortKV _)]
      refine (List.map_congr_left fun kv hkv => ?_).trans (List.map_id _)
      obtain ⟨x, hx, rfl⟩ := mem_sortedItems hkv
      rw [ih x hx]; rfl
    simp only [sortKeys]
    rw [hY, sortKV_of_sorted _ (sortKV_sorted _)]

theorem noDupL_iff (xs : List Val) : NoDupL xs ↔ ∀ x ∈ xs, x.NoDup := by
  induction xs with
  | nil => simp [NoDupL]
  | cons x r ih => simp [NoDupL, ih]

theorem noDupM_iff (kvs : List (Str × Val)) : NoDupM kvs ↔ ∀ kv ∈ kvs, kv.2.NoDup := by
  induction kvs with
  | nil => simp [NoDupM]
  | cons x r ih => obtain ⟨k, v⟩ := x; simp [NoDupM, ih]

theorem pyNorm_toJV (v : Val) (h : v.NoDup) : pyNorm (toJV v) = toJV v := by
  -- along the recursion of `toJV`, with the two list functions as the other motives
  refine (toJV.mutual_induct (fun v => v.NoDup → pyNorm (toJV v) = toJV v) (fun kvs => NoDupM kvs → pyNormM (toJVm kvs) = toJVm kvs)
    (fun xs => NoDupL xs → pyNormL (toJVs xs) = toJVs xs)
    ?null ?bool ?int ?str ?arr ?obj ?toJVs_nil ?toJVs_cons ?toJVm_nil ?toJVm_cons).1 v h
  case null => exact fun _ => rfl
  case bool => exact fun _ _ => rfl
  case int => exact fun _ _ => rfl
  case str => exact fun _ _ => rfl
  case arr =>
    intro xs ih h
    exact congrArg JV.arr (ih h)
  case obj =>
    intro kvs ih h
    exact congrArg JV.obj ((congrArg dictOf (ih h.2)).trans (dictOf_of_nodup _ (by rw [toJVm_keys]; exact h.1)))
  case toJVs_nil => exact fun _ => rfl
  case toJVs_cons =>
    intro x r ihx ihr h
    show pyNorm (toJV x) :: pyNormL (toJVs r) = toJV x :: toJVs r
    rw [ihx h.1, ihr h.2]
  case toJVm_nil => exact fun _ => rfl
  case toJVm_cons =>
    intro k v r ihv ihr h
    show (k, pyNorm (toJV v)) :: pyNormM (toJVm r) = (k, toJV v) :: toJVm r
    rw [ihv h.1, ihr h.2]

theorem keysAscendingL_iff (xs : List Val) : KeysAscendingL xs ↔ ∀ x ∈ xs, KeysAscending x := by
  induction xs with
  | nil => simp [KeysAscendingL]
  | cons x r ih => simp [KeysAscendingL, ih]

theorem keysAscendingM_iff (kvs : List (Str × Val)) : KeysAscendingM kvs ↔ ∀ kv ∈ kvs, KeysAscending kv.2 := by
  induction kvs with
  | nil => simp [KeysAscendingM]
  | cons x r ih => obtain ⟨k, v⟩ := x; simp [KeysAscendingM, ih]

theorem sortKeys_spec (v : Val) (h : v.NoDup) : (sortKeys v).NoDup ∧ KeysAscending (sortKeys v) := by
  induction v using Val.ind with
  | hnull => exact ⟨h, trivial⟩
  | hbool b => exact ⟨h, trivial⟩
  | hint i => exact ⟨h, trivial⟩
  | hstr t => exact ⟨h, trivial⟩
  | harr xs ih =>
    simp only [Val.NoDup, noDupL_iff] at h
    simp only [sortKeys, Val.NoDup, KeysAscending, noDupL_iff, keysAscendingL_iff, sortKeysL_eq, List.forall_mem_map]
    exact ⟨fun x hx => (ih x hx (h x hx)).1, fun x hx => (ih x hx (h x hx)).2⟩
  | hobj kvs ih =>
    simp only [Val.NoDup, noDupM_iff] at h
    simp only [sortKeys, Val.NoDup, KeysAscending, noDupM_iff, keysAscendingM_iff]
    have hk : ((sortKeysM kvs).map (·.1)).Nodup := by rw [sortKeysM_keys]; exact h.1
    have hm : ∀ kv ∈ sortKV (sortKeysM kvs), kv.2.NoDup ∧ KeysAscending kv.2 := fun kv hkv => by
      obtain ⟨x, hx, rfl⟩ := mem_sortedItems hkv
      exact ih x hx (h.2 x hx)
    exact ⟨⟨(sortKV_keys_perm _).nodup_iff.mpr hk, fun kv hkv => (hm kv hkv).1⟩, sortKV_strict _ hk, fun kv hkv => (hm kv hkv).2⟩

theorem Val.get_nil (k : Str) : (Val.obj []).get k = none := rfl

theorem Val.get_cons (k : Str) (kv : Str × Val) (r : List (Str × Val)) :
    (Val.obj (kv :: r)).get k = if kv.1 = k then some kv.2 else (Val.obj r).get k := by
  simp only [Val.get, List.find?_cons]
  by_cases h : kv.1 = k <;> simp [h]

theorem Val.get_append (k : Str) (a b : List (Str × Val)) :
    (Val.obj (a ++ b)).get k = ((Val.obj a).get k).or ((Val.obj b).get k) := by
  simp only [Val.get, List.find?_append]
  cases List.find? (fun x => decide (x.1 = k)) a <;> rfl

theorem Val.get_ite (k : Str) (c : Prop) [Decidable c] (a : List (Str × Val)) :
    (Val.obj (if c then a else [])).get k = if c then (Val.obj a).get k else none := by
  split <;> rfl

theorem Val.get_of_mem {kvs : List (Str × Val)} (hnd : (Val.obj kvs).keys.Nodup) {k : Str} {v : Val} (h : (k, v) ∈ kvs) :
    (Val.obj kvs).get k = some v :=
  (Text.assoc_eq_some_iff hnd).mpr h

theorem Val.get_eq_none {kvs : List (Str × Val)} {k : Str} (h : k ∉ (Val.obj kvs).keys) : (Val.obj kvs).get k = none :=
  Text.assoc_eq_none_iff.mpr h

theorem noDup_obj {kvs : List (Str × Val)} (h1 : (Val.obj kvs).keys.Nodup) (h2 : NoDupM kvs) : (Val.obj kvs).NoDup := by
  rw [Val.NoDup]; exact ⟨h1, h2⟩

theorem noDup_arr {xs : List Val} (h : ∀ x ∈ xs, x.NoDup) : (Val.arr xs).NoDup := by
  rw [Val.NoDup, noDupL_iff]; exact h

theorem noDupM_append (a b : List (Str × Val)) : NoDupM (a ++ b) ↔ NoDupM a ∧ NoDupM b := by
  simp only [noDupM_iff, List.forall_mem_append]

theorem noDup_optStr (o : Option Str) : (optStr o).NoDup := by cases o <;> trivial

theorem noDup_arr_map {α} {f : α → Val} (h : ∀ a, (f a).NoDup) (l : List α) : (Val.arr (l.map f)).NoDup := by
  refine noDup_arr fun y hy => ?_
  obtain ⟨x, _, rfl⟩ := List.mem_map.mp hy
  exact h x

theorem noDupM_optItem (k : Str) (o : Option Str) : NoDupM (match o with | some c => [(k, Val.str c)] | none => []) := by
  cases o
  · trivial
  · exact ⟨trivial, trivial⟩

theorem noDup_strs (l : List Str) : (strs l).NoDup := noDup_arr_map (f := Val.str) (fun _ => trivial) l

theorem noDup_optStrs (o : Option (List Str)) : (optStrs o).NoDup := by
  cases o with
  | none => trivial
  | some l => exact noDup_strs l

theorem noDup_noteList (l : List (Option Str)) : (noteList l).NoDup := noDup_arr_map noDup_optStr l

theorem nodup_levelKeys : [kFail, kWarn, kInfo].Nodup := by
  unfold kFail kWarn kInfo Report.s
  decode_literals
  decide +kernel

theorem levelKeys_ne : kFail ≠ kWarn ∧ kFail ≠ kInfo ∧ kWarn ≠ kInfo := by
  simpa [and_assoc] using nodup_levelKeys

theorem noDup_notesVal (n : Report.JNotes) : (notesVal n).NoDup := by
  obtain ⟨f, w, i⟩ := n
  have hk : (notesVal ⟨f, w, i⟩).keys.Sublist [kFail, kWarn, kInfo] := by
    cases f <;> cases w <;> cases i <;> simp [notesVal, Val.keys]
  refine noDup_obj (hk.nodup nodup_levelKeys) ?_
  cases f <;> cases w <;> cases i <;> simp [NoDupM, noDup_noteList]

theorem nodup_entryKeys : [kAlgorithm, kNotes, kKeysize, kCaAlgorithm, kCasize].Nodup := by
  unfold kAlgorithm kNotes kKeysize kCaAlgorithm kCasize Report.s
  decode_literals
  decide +kernel

theorem sizeKeys_ne : kKeysize ≠ kCaAlgorithm ∧ kKeysize ≠ kCasize ∧ kCaAlgorithm ≠ kCasize := by
  simpa [and_assoc] using (List.nodup_cons.mp (List.nodup_cons.mp nodup_entryKeys).2).2

/-- what `kexExtra` / `keyExtra` can yield -/
def ExtraOk (extra : List (Str × Val)) : Prop :=
  (extra.map (·.1)).Sublist [kKeysize, kCaAlgorithm, kCasize] ∧ NoDupM extra

theorem extraOk_nil : ExtraOk [] := ⟨List.nil_sublist _, trivial⟩

theorem kexExtra_ok (dh : List (Str × Nat)) (n : Str) : ExtraOk (kexExtra dh n) := by
  unfold kexExtra
  split
  · exact ⟨by simp, trivial, trivial⟩
  · exact extraOk_nil

theorem keyExtra_ok (rf : List Str) (hk : List (Str × Report.HostKeyInfo)) (n : Str) : ExtraOk (keyExtra rf hk n) := by
  unfold keyExtra
  split
  · split <;> split <;> simp [ExtraOk, NoDupM, Val.NoDup]
  · exact extraOk_nil

theorem noDup_algEntry (db : DB) (fu cat name : Str) {extra : List (Str × Val)} (h : ExtraOk extra) : (algEntry db fu cat name extra).NoDup :=
  noDup_obj (((h.1.cons_cons kNotes).cons_cons kAlgorithm).nodup nodup_entryKeys) ⟨trivial, noDup_notesVal _, h.2⟩

theorem noDup_algList {db : DB} {fu cat : Str} {names : List Str} {extra : Str → List (Str × Val)} (h : ∀ n, ExtraOk (extra n)) :
    (algList db fu cat names extra).NoDup :=
  noDup_arr_map (fun n => noDup_algEntry db fu cat n (h n)) names

theorem noDupL_fpEntries (f : Output.Fp) : NoDupL (fpEntries f) := by
  have hk : [Report.s "hostkey", Report.s "hash_alg", Report.s "hash"].Nodup := by
    unfold Report.s
    decode_literals
    decide +kernel
  rw [fpEntries]
  exact ⟨noDup_obj hk ⟨trivial, trivial, trivial, trivial⟩, noDup_obj hk ⟨trivial, trivial, trivial, trivial⟩, trivial⟩

theorem groups_keys {α} (ks : List α) (name : α → Str) (sub : α → List Report.Rec) (val : α → List Report.Rec → Val) :
    (groups ks name sub val).keys = (ks.filter fun k => decide (¬ (sub k).isEmpty = true)).map name := by
  have e : (fun k => if (sub k).isEmpty then none else some (name k, val k (sub k)))
      = fun k => if ¬ (sub k).isEmpty = true then some (name k, val k (sub k)) else none := funext fun _ => (ite_not _ _ _).symm
  rw [groups, Val.keys, e, Text.filterMap_ite, List.map_map]
  rfl

theorem groups_keys_nodup {α} (ks : List α) (name : α → Str) (sub : α → List Report.Rec) (val : α → List Report.Rec → Val)
    (h : (ks.map name).Nodup) : (groups ks name sub val).keys.Nodup := by
  rw [groups_keys]; exact (List.filter_sublist.map name).nodup h

theorem noDup_groups {α} {ks : List α} {name : α → Str} {sub : α → List Report.Rec} {val : α → List Report.Rec → Val}
    (h1 : (ks.map name).Nodup) (h2 : ∀ k l, (val k l).NoDup) : (groups ks name sub val).NoDup := by
  refine noDup_obj (groups_keys_nodup ks name sub val h1) ((noDupM_iff _).mpr fun kv hkv => ?_)
  obtain ⟨k, _, hk⟩ := List.mem_filterMap.mp hkv
  split at hk
  · cases hk
  · cases hk; exact h2 _ _

theorem groups_get {α} (ks : List α) (name : α → Str) (sub : α → List Report.Rec) (val : α → List Report.Rec → Val)
    (h : (ks.map name).Nodup) (k : α) (hk : k ∈ ks) :
    (groups ks name sub val).get (name k) = if (sub k).isEmpty then none else some (val k (sub k)) := by
  split
  · next he =>
    refine Val.get_eq_none fun hm => ?_
    rw [← groups, groups_keys] at hm
    obtain ⟨b, hb, e⟩ := List.mem_map.mp hm
    have hb' := List.mem_filter.mp hb
    have := Text.inj_of_nodup_map h hb'.1 hk e
    subst this
    simp [he] at hb'
  · next he =>
    apply Val.get_of_mem (groups_keys_nodup ks name sub val h)
    exact List.mem_filterMap.mpr ⟨k, hk, by simp [he]⟩

/-- the emptiness test of the enclosing level can be dropped: an empty list has only empty groups -/
theorem groups_get_filter {α} (ks : List α) (name : α → Str) (p : α → Report.Rec → Bool) (val : α → List Report.Rec → Val)
    (h : (ks.map name).Nodup) (k : α) (hk : k ∈ ks) (l : List Report.Rec) :
    (if l.isEmpty then none else some (groups ks name (fun a => l.filter (p a)) val)).bind (·.get (name k))
      = if (l.filter (p k)).isEmpty then none else some (val k (l.filter (p k))) := by
  cases l with
  | nil => rfl
  | cons x r => exact groups_get ks name _ val h k hk

theorem nodup_levelNames : ([2, 1, 0].map recLevelName).Nodup := by decide +kernel
theorem nodup_actionNames : ([Report.Action.del, .add, .chg].map actionName).Nodup := by decide +kernel
theorem nodup_catNames : ([Report.kexC, Report.keyC, Report.encC, Report.macC].map id).Nodup := by decide +kernel

theorem noDup_recEntry (r : Report.Rec) : (recEntry r).NoDup :=
  noDup_obj (show [Report.s "name", Report.s "notes"].Nodup by decide +kernel) ⟨trivial, trivial, trivial⟩

theorem noDup_recsVal (recs : List Report.Rec) : (recsVal recs).NoDup := by
  refine noDup_groups nodup_levelNames fun _ _ => ?_
  refine noDup_groups nodup_actionNames fun _ _ => ?_
  exact noDup_groups nodup_catNames fun _ l => noDup_arr_map noDup_recEntry l

theorem nodup_bannerKeys : [Report.s "raw", Report.s "protocol", Report.s "software", Report.s "comments"].Nodup := by
  unfold Report.s
  decode_literals
  decide +kernel

theorem noDup_bannerItems (r p s c : Val) (hr : r.NoDup) (hp : p.NoDup) (hs : s.NoDup) (hc : c.NoDup) :
    (Val.obj [(Report.s "raw", r), (Report.s "protocol", p), (Report.s "software", s), (Report.s "comments", c)]).NoDup :=
  noDup_obj nodup_bannerKeys ⟨hr, hp, hs, hc, trivial⟩

theorem noDup_bannerVal (b : Option BannerDoc) : (bannerVal b).NoDup := by
  cases b with
  | none => exact noDup_bannerItems _ _ _ _ trivial trivial trivial trivial
  | some b => exact noDup_bannerItems _ _ _ _ trivial trivial (noDup_optStr _) (noDup_optStr _)

theorem noDupM_tail (recs : List Report.Rec) (notes : List Str) : NoDupM (tailItems recs notes) := by
  rw [tailItems]
  exact ⟨noDup_arr (fun _ h => nomatch h), noDup_recsVal recs, noDup_strs notes, trivial⟩

theorem whoVal_fst (hp : Str) (ch : Option Str) : (whoVal hp ch).1 = if ch.isSome then Report.s "client_ip" else Report.s "target" := by
  cases ch <;> rfl

theorem doc_keys_nodup (rf : List Str) (fu : Str) (db : DB) (peer : Report.Peer) (recs : List Report.Rec) (notes : List Str) (m : Meta) :
    (doc rf fu db peer recs notes m).keys.Nodup := by
  have : (doc rf fu db peer recs notes m).keys.Sublist [Report.s "banner", Report.s "client_ip", Report.s "target", Report.s "compression",
      Report.kexC, Report.keyC, Report.encC, Report.macC, Report.s "fingerprints", Report.s "cves", Report.s "recommendations",
      Report.s "additional_notes"] := by
    unfold doc whoVal tailItems Val.keys
    cases m.clientHost <;> simp
  refine this.nodup ?_
  unfold Report.kexC Report.keyC Report.encC Report.macC Report.s
  decode_literals
  decide +kernel

theorem docElse_keys_nodup (d : Ssh1Report.Doc) : (docElse d).keys.Nodup := by
  have : (docElse d).keys.Sublist [Report.s "banner", Report.s "client_ip", Report.s "target", Report.keyC, Report.encC, Report.autC,
      Report.s "fingerprints", Report.s "cves", Report.s "recommendations", Report.s "additional_notes"] := by
    unfold docElse tailItems Val.keys
    cases d.clientIp <;> cases d.target <;> simp
  refine this.nodup ?_
  unfold Report.keyC Report.encC Report.autC Report.s
  decode_literals
  decide +kernel

theorem noDup_docElse (d : Ssh1Report.Doc) : (docElse d).NoDup := by
  refine noDup_obj (docElse_keys_nodup d) ?_
  simp only [noDupM_append]
  -- the five lists `docElse` appends
  refine ⟨⟨⟨⟨?banner, ?client_ip⟩, ?target⟩, ?lists⟩, noDupM_tail _ _⟩
  case banner => exact ⟨noDup_bannerItems _ _ _ _ trivial (noDup_optStr _) (noDup_optStr _) (noDup_optStr _), trivial⟩
  case client_ip => exact noDupM_optItem _ _
  case target => exact noDupM_optItem _ _
  case lists =>
    have fp : (Val.obj [(Report.s "type", .str d.fpType), (Report.s "fp", optStr d.fp)]).NoDup :=
      noDup_obj (show [Report.s "type", Report.s "fp"].Nodup by decide +kernel) ⟨trivial, noDup_optStr _, trivial⟩
    exact ⟨noDup_strs _, noDup_optStrs _, noDup_optStrs _, ⟨fp, trivial⟩, trivial⟩

theorem entryName_algEntry (db : DB) (fu cat name : Str) (extra : List (Str × Val)) :
    entryName (algEntry db fu cat name extra) = some name := by
  rw [entryName, algEntry, List.cons_append, Val.get_cons, if_pos rfl]; rfl

theorem algEntry_get_extra {db : DB} {fu cat name : Str} {extra : List (Str × Val)} {k : Str} (hk : k ∈ [kKeysize, kCaAlgorithm, kCasize]) :
    (algEntry db fu cat name extra).get k = (Val.obj extra).get k := by
  have h := List.nodup_cons.mp nodup_entryKeys
  have h1 : kAlgorithm ≠ k := fun e => h.1 (e ▸ List.mem_cons_of_mem _ hk)
  have h2 : kNotes ≠ k := fun e => (List.nodup_cons.mp h.2).1 (e ▸ hk)
  simp only [algEntry, List.cons_append, List.nil_append, Val.get_cons, h1, h2, if_false]

theorem items_noteList (l : List (Option Str)) : (noteList l).items.filterMap Val.strOf = l.filterMap id := by
  simp only [noteList, Val.items]
  induction l with
  | nil => rfl
  | cons x r ih => cases x <;> simp [optStr, Val.strOf, List.filterMap_cons, ih]

theorem notesVal_get (n : Report.JNotes) :
    (notesVal n).get kFail = n.fail.map noteList ∧ (notesVal n).get kWarn = n.warn.map noteList ∧
    (notesVal n).get kInfo = n.info.map noteList := by
  obtain ⟨k1, k2, k3⟩ := levelKeys_ne
  obtain ⟨f, w, i⟩ := n
  cases f <;> cases w <;> cases i <;> simp [notesVal, Val.get_cons, Val.get_nil, k1, k2, k3, k1.symm, k2.symm, k3.symm]

end SshAudit.JsonDoc
