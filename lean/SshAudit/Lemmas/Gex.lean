/-
  `Gex.loop` and `Gex.run` (Model/Gex.lean) for an arbitrary server: the equation of one round of the loop, the
  invariant principle it gives, and the shape of the probe trace.  Entry points: `loop_cons` (one round), `loop_ind` (anything
  about the loop state, e.g. `smallest`), `run_inv` (invariants over server state and trace), `run_trace` (the trace of a run).
  Then the rating edits of the database entry: what
  `addWarn` / `addInfo` leave in each of the entry's lists, and that a second edit with the same text changes nothing.
-/
import SshAudit.Model.Gex
namespace SshAudit.Gex

variable {σ : Type}

/-- `bits >= smallest_modulus > 0`, the loop's `break` test (`none` = −1) -/
def breaks (b : Nat) : Option Nat → Bool
  | some s => decide (b ≥ s ∧ s > 0)
  | none => false

def probe (srv : σ → Probe → Resp × σ) (b : Nat) (st : LoopSt σ) : LoopSt σ :=
  { srvSt := (srv st.srvSt (b, b, b)).2, smallest := (srv st.srvSt (b, b, b)).1.bits,
    reconnectFailed := (srv st.srvSt (b, b, b)).1.reconnectFailed, trace := st.trace ++ [((b, b, b), (srv st.srvSt (b, b, b)).1)] }

/-- the state the loop of `run` starts from: the first request answered -/
def start (srv : σ → Probe → Resp × σ) (s0 : σ) : LoopSt σ :=
  { srvSt := (srv s0 firstProbe).2, smallest := (srv s0 firstProbe).1.bits, reconnectFailed := false,
    trace := [(firstProbe, (srv s0 firstProbe).1)] }

theorem loop_cons (srv : σ → Probe → Resp × σ) (b : Nat) (bs : List Nat) (st : LoopSt σ) :
    loop srv (b :: bs) st = if breaks b st.smallest then st else loop srv bs (probe srv b st) := by
  rw [loop.eq_2]
  cases st.smallest with
  | none => rfl
  | some s => by_cases h : b ≥ s ∧ s > 0 <;> simp [breaks, h, probe]

theorem loop_ind (srv : σ → Probe → Resp × σ) (P : LoopSt σ → Prop) (step : ∀ st b, P st → P (probe srv b st))
    (bs : List Nat) (st : LoopSt σ) (h : P st) : P (loop srv bs st) := by
  induction bs generalizing st with
  | nil => exact h
  | cons b bs ih =>
    rw [loop_cons]
    split
    · exact h
    · exact ih _ (step st b h)

theorem loop_inv (srv : σ → Probe → Resp × σ) (P : σ → List (Probe × Resp) → Prop)
    (step : ∀ s tr p, P s tr → P (srv s p).2 (tr ++ [(p, (srv s p).1)])) (bs : List Nat) (st : LoopSt σ)
    (h : P st.srvSt st.trace) : P (loop srv bs st).srvSt (loop srv bs st).trace :=
  loop_ind srv (fun st => P st.srvSt st.trace) (fun _ _ h => step _ _ _ h) bs st h

theorem run_inv (srv : σ → Probe → Resp × σ) (P : σ → List (Probe × Resp) → Prop)
    (step : ∀ s tr p, P s tr → P (srv s p).2 (tr ++ [(p, (srv s p).1)])) (s0 : σ) (isOpenSSH : Bool) (h : P s0 []) :
    P (run srv s0 isOpenSSH).srvSt (run srv s0 isOpenSSH).trace := by
  have h1 := loop_inv srv P step schedule (start srv s0) (step s0 [] firstProbe h)
  unfold run
  simp only
  split
  · exact step s0 [] firstProbe h
  · split
    · exact step _ _ _ h1
    · exact h1

theorem loop_trace (srv : σ → Probe → Resp × σ) (bs : List Nat) (st : LoopSt σ) :
    ∃ l, (loop srv bs st).trace = st.trace ++ l ∧ l.length ≤ bs.length ∧ ∀ pr ∈ l, ∃ b, pr.1 = (b, b, b) := by
  induction bs generalizing st with
  | nil => exact ⟨[], (List.append_nil _).symm, Nat.le_refl _, fun _ h => absurd h List.not_mem_nil⟩
  | cons b bs ih =>
    rw [loop_cons]
    split
    · exact ⟨[], (List.append_nil _).symm, Nat.zero_le _, fun _ h => absurd h List.not_mem_nil⟩
    · obtain ⟨l, hl, hn, hp⟩ := ih (probe srv b st)
      refine ⟨((b, b, b), (srv st.srvSt (b, b, b)).1) :: l, by rw [hl]; exact List.append_assoc .., Nat.succ_le_succ hn, ?_⟩
      intro pr hpr
      rcases List.mem_cons.mp hpr with rfl | hpr
      · exact ⟨b, rfl⟩
      · exact hp pr hpr

theorem run_trace (srv : σ → Probe → Resp × σ) (s0 : σ) (isOpenSSH : Bool) :
    ∃ l t, (run srv s0 isOpenSSH).trace = (firstProbe, (srv s0 firstProbe).1) :: l ++ t ∧ l.length ≤ 7 ∧ (∀ pr ∈ l, ∃ b, pr.1 = (b, b, b))
      ∧ (t = [] ∨ isOpenSSH = true ∧ ∃ r, t = [(secondPassProbe, r)]) := by
  -- 7 is `schedule.length`: at most one probe per scheduled size
  obtain ⟨l, hl, hn, hp⟩ := loop_trace srv schedule (start srv s0)
  unfold run
  simp only
  split
  · exact ⟨[], [], rfl, Nat.zero_le _, fun _ h => absurd h List.not_mem_nil, .inl rfl⟩
  · split
    · next hb => exact ⟨l, _, congrArg (· ++ _) hl, hn, hp, .inr ⟨hb.2, _, rfl⟩⟩
    · exact ⟨l, [], hl.trans (List.append_nil _).symm, hn, hp, .inl rfl⟩

theorem positive_eq_some {o : Option Nat} {n : Nat} : positive o = some n ↔ o = some n ∧ n > 0 := by
  cases o with
  | none => simp [positive]
  | some k => by_cases hk : k > 0 <;> simp [positive, Option.filter, hk] <;> omega

theorem bits_eq_some {r : Resp} {n : Nat} : r.bits = some n ↔ r = .size n := by
  cases r <;> simp [Resp.bits]

theorem mem_addTo (t : Str) (w : List (Option Str)) : some t ∈ addTo t w := by
  unfold addTo
  split
  · next hc => exact List.contains_iff_mem.mp hc
  · exact List.mem_append_right _ (List.mem_singleton_self _)

theorem addTo_idem (t : Str) (w : List (Option Str)) : addTo t (addTo t w) = addTo t w := by
  rw [addTo, if_pos (List.contains_iff_mem.mpr (mem_addTo t w))]

theorem getD_addWarn (t : Str) (d : List (List (Option Str))) :
    (addWarn t d).getD 2 [] = addTo t (d.getD 2 []) ∧ (addWarn t d).getD 1 [] = d.getD 1 [] := by
  match d with
  | [] | [_] | [_, _] | _ :: _ :: _ :: _ => exact ⟨rfl, rfl⟩

theorem getD_addInfo (t : Str) (d : List (List (Option Str))) :
    (addInfo t d).getD 3 [] = addTo t (d.getD 3 []) ∧ (addInfo t d).getD 1 [] = d.getD 1 [] ∧ (addInfo t d).getD 2 [] = d.getD 2 [] := by
  match d with
  | [] | [_] | [_, _] | [_, _, _] | _ :: _ :: _ :: _ :: _ => exact ⟨rfl, rfl, rfl⟩

theorem addWarn_idem (t : Str) (d : List (List (Option Str))) : addWarn t (addWarn t d) = addWarn t d := by
  match d with
  | [] | [_] | [_, _] => simp [addWarn, addTo]
  | _ :: _ :: _ :: _ => simp only [addWarn, addTo_idem]

end SshAudit.Gex
