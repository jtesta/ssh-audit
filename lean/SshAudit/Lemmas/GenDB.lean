/-
  The one sweep over the regenerated SSH-2 database that several properties share (`Gen/KexDB.lean` is rewritten from /repo on every
  run, so the kernel re-checks it against the code as it is).
-/
import SshAudit.Gen.KexDB
import SshAudit.Lemmas.Text
namespace SshAudit
namespace Gen

theorem ssh2db_names_nodup : ∀ ce ∈ ssh2db, (ce.2.map (·.name)).Nodup := by
  have h : ssh2db.all (fun ce => Text.nodupN (ce.2.map (fun e => Text.nameCode e.name))) = true := by decide +kernel
  exact fun ce hce => Text.nodup_of_codes Entry.name (List.all_eq_true.mp h ce hce)

end Gen
end SshAudit
