/-
  The buffer machine on a *quiet* buffer (no exception, last line ended): each operation, and so the whole call sequence of
  `ssh_audit.output()`, appends a list of lines that can be written down (`exec_output`).  A sorted list of strings is determined by its
  elements (`sorted_perm_eq`), so the order in which lines enter the sorted section does not show.
-/
import SshAudit.Model.Output
import SshAudit.Lemmas.Text

namespace SshAudit.Output
open SshAudit SshAudit.Report

theorem leStr_iff (a b : Str) : leStr a b = true ↔ a ≤ b := by
  rw [leStr, Bool.not_eq_true', ← Bool.not_eq_true, Text.ltStr_iff]
  exact List.not_lt

theorem leStr_total (a b : Str) : (leStr a b || leStr b a) = true := by
  rw [Bool.or_eq_true, leStr_iff, leStr_iff]
  exact List.le_total a b

theorem leStr_trans (a b c : Str) (h1 : leStr a b = true) (h2 : leStr b c = true) : leStr a c = true :=
  (leStr_iff a c).mpr (List.le_trans ((leStr_iff a b).mp h1) ((leStr_iff b c).mp h2))

theorem sortStr_perm (l : List Str) : (sortStr l).Perm l := List.mergeSort_perm l leStr

theorem sortStr_sorted (l : List Str) : (sortStr l).Pairwise (fun a b => leStr a b = true) :=
  List.pairwise_mergeSort leStr_trans leStr_total l

theorem sorted_perm_eq (l₁ l₂ : List Str) (h₁ : l₁.Pairwise (fun a b => leStr a b = true)) (h₂ : l₂.Pairwise (fun a b => leStr a b = true))
    (hp : l₁.Perm l₂) : l₁ = l₂ :=
  List.Perm.eq_of_pairwise (fun a b _ _ hab hba => List.le_antisymm ((leStr_iff a b).mp hab) ((leStr_iff b a).mp hba)) h₁ h₂ hp

theorem sortStr_eq_of_perm (l₁ l₂ : List Str) (h : l₁.Perm l₂) : sortStr l₁ = sortStr l₂ :=
  sorted_perm_eq _ _ (sortStr_sorted l₁) (sortStr_sorted l₂) ((sortStr_perm l₁).trans (h.trans (sortStr_perm l₂).symm))

theorem sort_filter_map {α : Type} (f : α → Str) (p : α → Bool) (l : List α) :
    ((l.mergeSort (fun a b => leStr (f a) (f b))).filter p).map f = sortStr ((l.filter p).map f) := by
  apply sorted_perm_eq
  · rw [List.pairwise_map]
    apply List.Pairwise.filter
    exact List.pairwise_mergeSort (le := fun a b => leStr (f a) (f b)) (fun a b c => leStr_trans (f a) (f b) (f c)) (fun a b => leStr_total (f a) (f b)) l
  · exact sortStr_sorted _
  · exact (((List.mergeSort_perm l _).filter p).map f).trans (sortStr_perm _).symm

theorem sort_map {α : Type} (f : α → Str) (l : List α) :
    (l.mergeSort (fun a b => leStr (f a) (f b))).map f = sortStr (l.map f) := by
  have := sort_filter_map f (fun _ => true) l
  rw [List.filter_eq_self.mpr (fun _ _ => rfl), List.filter_eq_self.mpr (fun _ _ => rfl)] at this
  exact this

/-- a *quiet* buffer: no exception has occurred and the last line has ended -/
abbrev quiet (buf sect : List Str) (inS : Bool) (o : List (List Str)) : Buf := ⟨buf, sect, inS, true, o, none⟩

theorem exec_nil (cfg : Cfg) (b : Buf) : exec cfg [] b = b := rfl
theorem exec_cons (cfg : Cfg) (op : Op) (ops : List Op) (b : Buf) : exec cfg (op :: ops) b = exec cfg ops (stepG cfg b op) := rfl
theorem exec_one (cfg : Cfg) (op : Op) (b : Buf) : exec cfg [op] b = stepG cfg b op := rfl
theorem exec_append (cfg : Cfg) (xs ys : List Op) (b : Buf) : exec cfg (xs ++ ys) b = exec cfg ys (exec cfg xs b) :=
  List.foldl_append

theorem empty_quiet : ({} : Buf) = quiet [] [] false [] := rfl

theorem entries_quiet (buf : List Str) (o : List (List Str)) : (quiet buf [] false o).entries = buf :=
  List.append_nil buf

theorem exec_write_quiet (cfg : Cfg) (buf : List Str) (o : List (List Str)) :
    exec cfg [Op.write] (quiet buf [] false o) = quiet [] [] false (o ++ [buf]) := by
  simp [exec, stepG, step, doWrite, doFlush]

theorem paint_nil (c : Bool) (m : Meth) : paint c m [] = [] := by simp [paint, colorOn]

theorem paint_info (c : Bool) (t : Str) : paint c .info t = t := by simp [paint, colorOn]

theorem passes_head (lv : Nat) (a : Bool) : passes lv .head a = true := by simp [passes, getLevel]

theorem passes_level (lv k : Nat) (m : Meth) (h : getLevel m = some k) : passes lv m false = decide (lv ≤ k) := by
  simp [passes, h, ← Nat.not_lt]

theorem keep_of_level {L k : Nat} {it : Item} (hm : getLevel it.meth = some k) (ha : it.always = false) : keep L it = decide (L ≤ k) := by
  rw [keep, ha, passes_level L k it.meth hm]

/-- the separator of a section, an empty `info` line, is shown at level `info` only -/
theorem keep_sep_iff (L : Nat) : keep L ⟨.info, [], false⟩ = true ↔ L = 0 := by
  rw [keep_of_level (it := ⟨.info, [], false⟩) rfl rfl, decide_eq_true_iff, Nat.le_zero]

theorem keep_zero (it : Item) : keep 0 it = true := by
  unfold keep passes; cases it.always <;> cases getLevel it.meth <;> simp

theorem filter_keep_zero (l : List Item) : l.filter (keep 0) = l := List.filter_eq_self.mpr fun a _ => keep_zero a

theorem keep_mono {L L' : Nat} (h : L ≤ L') (it : Item) (hk : keep L' it = true) : keep L it = true := by
  cases ha : it.always
  · cases hm : getLevel it.meth with
    | none => simp [keep, passes, hm]
    | some k =>
      rw [keep_of_level hm ha] at hk ⊢
      exact decide_eq_true (Nat.le_trans h (of_decide_eq_true hk))
  · simp [keep, passes, ha]

theorem filter_keep_mono {L L' : Nat} (h : L ≤ L') (l : List Item) : l.filter (keep L') = (l.filter (keep L)).filter (keep L') := by
  rw [List.filter_filter]
  refine List.filter_congr fun it _ => ?_
  cases hk : keep L' it
  · rfl
  · exact (keep_mono h it hk).symm

theorem stepG_quiet (cfg : Cfg) (op : Op) (buf sect : List Str) (inS ended : Bool) (o : List (List Str)) :
    stepG cfg ⟨buf, sect, inS, ended, o, none⟩ op = step cfg op ⟨buf, sect, inS, ended, o, none⟩ := rfl

theorem stepG_print_open (cfg : Cfg) (m : Meth) (t : Str) (e always : Bool) (buf : List Str) (o : List (List Str)) :
    stepG cfg ⟨buf, [], false, false, o, none⟩ (.print m t e always) =
      if passes cfg.level m always = true then
        (match appendToLast buf (paint cfg.colors m t) with
          | none => ⟨buf, [], false, false, o, some .index⟩
          | some l => ⟨l, [], false, e, o, none⟩)
      else ⟨buf, [], false, false, o, none⟩ := by
  rw [stepG_quiet, step]
  unfold doPrint
  cases passes cfg.level m always <;> rfl

def bodyOf (cfg : Cfg) (items : List Item) : List Str := (items.filter (keep cfg.level)).map (fun it => paint cfg.colors it.meth it.text)

theorem bodyOf_append (cfg : Cfg) (a b : List Item) : bodyOf cfg (a ++ b) = bodyOf cfg a ++ bodyOf cfg b := by
  rw [bodyOf, List.filter_append, List.map_append]; rfl

theorem bodyOf_single (cfg : Cfg) (it : Item) :
    bodyOf cfg [it] = if keep cfg.level it = true then [paint cfg.colors it.meth it.text] else [] := by
  rw [bodyOf, List.filter_cons]
  cases keep cfg.level it <;> rfl

theorem doPrint_line (cfg : Cfg) (m : Meth) (t : Str) (e always : Bool) (buf sect : List Str) (inS : Bool) (o : List (List Str)) :
    doPrint cfg m t e always (quiet buf sect inS o) =
      if inS = true then ⟨buf, sect ++ bodyOf cfg [⟨m, t, always⟩], inS, e || !passes cfg.level m always, o, none⟩
      else ⟨buf ++ bodyOf cfg [⟨m, t, always⟩], sect, inS, e || !passes cfg.level m always, o, none⟩ := by
  rw [bodyOf_single, keep]
  unfold doPrint
  cases passes cfg.level m always <;> cases inS <;> simp

theorem appendToLast_concat (l : List Str) (x t : Str) : appendToLast (l ++ [x]) t = some (l ++ [x ++ t]) := by
  induction l with
  | nil => rfl
  | cons y l ih =>
    cases l with
    | nil => rfl
    | cons z l => rw [List.cons_append, List.cons_append, appendToLast, ← List.cons_append, ih]; rfl

theorem stepG_print_quiet (cfg : Cfg) (m : Meth) (t : Str) (e a : Bool) (buf : List Str) (o : List (List Str)) :
    stepG cfg (quiet buf [] false o) (.print m t e a) = ⟨buf ++ bodyOf cfg [⟨m, t, a⟩], [], false, e || !passes cfg.level m a, o, none⟩ :=
  doPrint_line cfg m t e a buf [] false o

theorem exec_items (cfg : Cfg) (items : List Item) (buf sect : List Str) (inS : Bool) (o : List (List Str)) :
    exec cfg (items.map Item.op) (quiet buf sect inS o) =
      if inS = true then quiet buf (sect ++ bodyOf cfg items) inS o else quiet (buf ++ bodyOf cfg items) sect inS o := by
  induction items generalizing buf sect with
  | nil => cases inS <;> simp [exec_nil, bodyOf]
  | cons it rest ih =>
    rw [List.map_cons, exec_cons, Item.op, stepG_quiet, step, doPrint_line, Bool.true_or, show it :: rest = [it] ++ rest from rfl, bodyOf_append]
    cases inS
    · simp only [Bool.false_eq_true, if_false, ih, List.append_assoc]
    · simp only [if_true, ih, List.append_assoc]

theorem exec_head (cfg : Cfg) (t : Str) (buf sect : List Str) (o : List (List Str)) :
    exec cfg [Op.head t true] (quiet buf sect false o) =
      quiet (buf ++ (if cfg.batch then [] else [paint cfg.colors .head t])) sect false o := by
  rw [exec_one, stepG_quiet, step, doHead, doPrint_line, Bool.true_or, bodyOf_single, keep, passes_head]
  cases cfg.batch <;> simp

theorem exec_sep (cfg : Cfg) (buf sect : List Str) (o : List (List Str)) :
    exec cfg [Op.sep] (quiet buf sect false o) =
      quiet (buf ++ (if cfg.batch || !passes cfg.level .info false then [] else [[]])) sect false o := by
  rw [exec_one, stepG_quiet, step, doSep, doPrint_line, Bool.true_or, bodyOf_single, keep, paint_nil]
  cases cfg.batch <;> cases passes cfg.level .info false <;> simp

theorem exec_block (cfg : Cfg) (t : Str) (items : List Item) (buf sect : List Str) (o : List (List Str)) :
    exec cfg (Op.head t true :: items.map Item.op) (quiet buf sect false o) =
      quiet (buf ++ ((if cfg.batch then [] else [paint cfg.colors .head t]) ++ bodyOf cfg items)) sect false o := by
  rw [← List.singleton_append, exec_append, exec_head, exec_items, if_neg Bool.false_ne_true, List.append_assoc]

/-- the conditional head / flush / sep that closes a section outside JSON mode -/
def closeLines (cfg : Cfg) (title : Str) (sort : Bool) (sect : List Str) : List Str :=
  if sect.isEmpty then []
  else (if cfg.batch then [] else [paint cfg.colors .head title]) ++ (if sort then sortStr sect else sect) ++
       (if cfg.batch || !passes cfg.level .info false then [] else [[]])

theorem renderSec_eq (cfg : Cfg) (sc : Sec) : renderSec cfg sc = closeLines cfg sc.title sc.sort (bodyOf cfg sc.items) := rfl

theorem renderSec_nil (cfg : Cfg) (sc : Sec) (h : sc.items = []) : renderSec cfg sc = [] := by
  rw [renderSec_eq, h]; rfl

theorem closeLines_perm (cfg : Cfg) (title : Str) (srt : Bool) (body : List Str) :
    (closeLines cfg title srt body).Perm (closeLines cfg title false body) := by
  cases srt
  · exact .refl _
  · rw [closeLines, closeLines]
    by_cases he : body.isEmpty = true
    · rw [if_pos he, if_pos he]
    · rw [if_neg he, if_neg he]
      exact (List.Perm.append_left _ (sortStr_perm body)).append_right _

theorem exec_sec (cfg : Cfg) (sc : Sec) (buf sect : List Str) (o : List (List Str)) :
    exec cfg sc.ops (quiet buf sect false o) =
      if cfg.json = true then quiet buf (sect ++ bodyOf cfg sc.items) false o
      else quiet (buf ++ closeLines cfg sc.title sc.sort (sect ++ bodyOf cfg sc.items)) [] false o := by
  rw [Sec.ops, exec_append, exec_append, show exec cfg [.enter] _ = (quiet buf sect true o) from rfl, exec_items, if_pos rfl]
  show step cfg (.close sc.title sc.sort) (quiet buf (sect ++ bodyOf cfg sc.items) false o) = _
  generalize sect ++ bodyOf cfg sc.items = l
  cases hj : cfg.json
  · cases l with
    | nil => simp [step, closeLines]
    | cons x xs =>
      have hh := exec_head cfg sc.title buf (x :: xs) o
      rw [exec_one, stepG_quiet, step] at hh
      rw [step, closeLines, if_pos (by rw [hj]; rfl), if_neg (show ¬ (x :: xs).isEmpty = true from Bool.false_ne_true), hh,
        if_neg Bool.false_ne_true, ← List.append_assoc, ← List.append_assoc]
      exact exec_sep cfg _ [] o
  · simp [step, hj]

theorem exec_secs (cfg : Cfg) (hj : cfg.json = false) (secs : List Sec) (buf : List Str) (o : List (List Str)) :
    exec cfg (secs.flatMap Sec.ops) (quiet buf [] false o) = quiet (buf ++ secs.flatMap (renderSec cfg)) [] false o := by
  induction secs generalizing buf with
  | nil => rw [List.flatMap_nil, List.flatMap_nil, List.append_nil]; rfl
  | cons sc rest ih =>
    rw [List.flatMap_cons, exec_append, exec_sec, hj, if_neg Bool.false_ne_true, List.nil_append, ← renderSec_eq, ih, List.flatMap_cons,
      List.append_assoc]

theorem exec_secs_json (cfg : Cfg) (hj : cfg.json = true) (secs : List Sec) (buf sect : List Str) (o : List (List Str)) :
    exec cfg (secs.flatMap Sec.ops) (quiet buf sect false o) =
      quiet buf (sect ++ secs.flatMap (fun sc => bodyOf cfg sc.items)) false o := by
  induction secs generalizing sect with
  | nil => rw [List.flatMap_nil, List.flatMap_nil, List.append_nil]; rfl
  | cons sc rest ih => rw [List.flatMap_cons, exec_append, exec_sec, if_pos hj, ih, List.flatMap_cons, List.append_assoc]

/-- the unknown-algorithm notice is an item printed outside the sections -/
def tailItems (inp : Input) : List Item :=
  if inp.report.unknown.length > 0 then [{ meth := .warn, text := unknownText inp.report.unknown }] else []

theorem renderTail_eq (cfg : Cfg) (inp : Input) : renderTail cfg inp = bodyOf cfg (tailItems inp) := by
  unfold renderTail tailItems
  by_cases h : inp.report.unknown.length > 0
  · rw [if_pos h, bodyOf_single, keep]; simp [h]
  · rw [if_neg h]; simp [h, bodyOf]

theorem exec_output (cfg : Cfg) (inp : Input) (o : List (List Str)) :
    exec cfg (outputOps cfg inp) (quiet [] [] false o) = quiet (renderClosed cfg inp) [] false o := by
  rw [outputOps, exec_append, renderClosed, finalOps]
  cases hj : cfg.json
  · have hf : (if inp.report.unknown.length > 0 then [Op.print .warn (unknownText inp.report.unknown) true false] else []) =
        (tailItems inp).map Item.op := by
      unfold tailItems; split <;> rfl
    rw [exec_secs cfg hj, if_neg Bool.false_ne_true, if_neg Bool.false_ne_true, hf, exec_items, renderTail_eq, List.nil_append]
    rfl
  · rw [exec_secs_json cfg hj, if_pos rfl, if_pos rfl]
    -- `reset()` empties both lists; the document is printed with `always_print`, and `info` is never coloured
    exact (doPrint_line cfg .info _ true true [] [] false o).trans
      (congrArg (Buf.mk · [] false true o none) (by simp [bodyOf, keep, passes, paint_info]))

/-- what the verbose messages (`v(msg, write_now=True)`) put on stdout: one write each when verbose (outside JSON mode) or debug is on and
    the level is `info`; nothing otherwise (a message the level drops is not flushed) -/
def vWrites (cfg : Cfg) (vmsgs : List Str) : List (List Str) :=
  if ((cfg.verbose && !cfg.json) || cfg.debug) && passes cfg.level .info false then vmsgs.map (fun m => [m]) else []

theorem vWrites_cons (cfg : Cfg) (m : Str) (ms : List Str) : vWrites cfg (m :: ms) = vWrites cfg [m] ++ vWrites cfg ms := by
  unfold vWrites; split <;> rfl

theorem stepG_v (cfg : Cfg) (m : Str) (o : List (List Str)) :
    stepG cfg (quiet [] [] false o) (.v m true) = quiet [] [] false (o ++ vWrites cfg [m]) := by
  rw [stepG_quiet, step, vWrites, doPrint_line, bodyOf_single, keep]
  cases ((cfg.verbose && !cfg.json) || cfg.debug) <;> cases passes cfg.level .info false <;> simp [doWrite, doFlush, paint_info]

theorem exec_vmsgs (cfg : Cfg) (vmsgs : List Str) (o : List (List Str)) :
    exec cfg (vmsgs.map (fun m => Op.v m true)) (quiet [] [] false o) = quiet [] [] false (o ++ vWrites cfg vmsgs) := by
  induction vmsgs generalizing o with
  | nil => simp [exec_nil, vWrites]
  | cons m rest ih => rw [List.map_cons, exec_cons, stepG_v, ih, vWrites_cons cfg m rest, List.append_assoc]

theorem stdoutOfError_eq (cfg : Cfg) (vmsgs : List Str) (inp : Input) (err : Str) :
    stdoutOfError cfg vmsgs inp err = vWrites cfg vmsgs ++ [renderClosed cfg inp ++ bodyOf cfg [⟨.fail, err, false⟩]] := by
  rw [stdoutOfError, auditErrorOps, empty_quiet, exec_append, exec_append, exec_vmsgs, exec_output,
    exec_cons, stepG_print_quiet, Bool.true_or, exec_write_quiet]
  exact congrArg (· ++ _) (List.nil_append _)

theorem escLen_ne (c : Char) (r : Str) (h : c ≠ esc) : escLen (c :: r) = 0 := by
  unfold escLen
  split
  · next heq => cases heq; exact if_neg fun h' => h h'.1
  · next heq => cases heq; exact if_neg h
  · rfl

theorem stripAnsi_escfree (t r : Str) (h : esc ∉ t) : stripAnsi (t ++ r) = t ++ stripAnsi r := by
  induction t with
  | nil => rfl
  | cons c cs ih =>
    rw [List.mem_cons, not_or] at h
    rw [List.cons_append, stripAnsi, stripGo, escLen_ne c _ (Ne.symm h.1)]
    exact congrArg (c :: ·) (ih h.2)

theorem strip_paint (c : Bool) (m : Meth) (t : Str) (h : esc ∉ t) : stripAnsi (paint c m t) = paint false m t := by
  rw [show paint false m t = t from rfl, paint]
  split
  · next hc =>
    -- the opening escape of each colour is a fixed text: evaluation skips it
    have hopen : stripAnsi ((esc :: s "[0;") ++ colorCode m ++ s "m" ++ t ++ (esc :: s "[0m")) = stripAnsi (t ++ (esc :: s "[0m")) := by
      cases m
      · rfl
      · rfl
      · simp [colorOn] at hc
      · rfl
      · rfl
    rw [hopen, stripAnsi_escfree t _ h, show stripAnsi (esc :: s "[0m") = [] by decide, List.append_nil]
  · exact (congrArg stripAnsi (List.append_nil t).symm).trans ((stripAnsi_escfree t [] h).trans (List.append_nil t))

end SshAudit.Output
