/-
  The modelled `json.loads` reads back what the modelled `json.dumps` writes, token by token.  `escJ_shape` is the one case analysis of
  what `dumps` writes for a character; the string round trip and "printable ASCII only" follow from it.  A number is read before any
  text that does not continue it (`NumEnd`); a run of blanks `w` is given as `∀ c ∈ w, isWs c = true`.
-/
import SshAudit.Model.PolicyFile
import SshAudit.Lemmas.Text
namespace SshAudit.PolicyFile.Json
open SshAudit SshAudit.Pol

theorem hexDigit_mod (k : Nat) : hexDigit k = hexDigit (k % 16) := by
  unfold hexDigit; rw [Nat.mod_mod]

theorem hexVal_hexDigit (k : Nat) : hexVal (hexDigit k) = some (k % 16) := by
  have h : ∀ j, j < 16 → hexVal (hexDigit j) = some j := by decide
  rw [hexDigit_mod]; exact h _ (Nat.mod_lt _ (by decide))

theorem hex4Val_hex4 (n : Nat) (h : n < 65536) :
    hex4Val (hexDigit (n / 4096)) (hexDigit (n / 256)) (hexDigit (n / 16)) (hexDigit n) = some n := by
  unfold hex4Val
  simp only [hexVal_hexDigit]
  congr 1
  omega

theorem char_valid (c : Char) : c.toNat < 0xD800 ∨ (0xDFFF < c.toNat ∧ c.toNat < 0x110000) := by
  have := c.valid
  simp [UInt32.isValidChar, Nat.isValidChar] at this
  exact this

theorem parseStrBody_simple (f : Nat) (e ch : Char) (t : Str) (hs : simpleEsc e = some ch) :
    parseStrBody (f + 1) ('\\' :: e :: t) = consChar ch (parseStrBody f t) := by
  have he : e ≠ 'u' := fun h => by rw [h] at hs; cases hs
  simp [parseStrBody, he, hs]

theorem parseStrBody_plain (f : Nat) (c : Char) (t : Str) (h1 : c ≠ '"') (h2 : c ≠ '\\') (h3 : ¬ c.toNat < 32) :
    parseStrBody (f + 1) (c :: t) = consChar c (parseStrBody f t) := by
  simp [parseStrBody, h1, h2, h3]

theorem parseStrBody_bmp (f : Nat) (c : Char) (t : Str) (h : c.toNat < 65536) :
    parseStrBody (f + 1) ('\\' :: 'u' :: hex4 c.toNat ++ t) = consChar c (parseStrBody f t) := by
  have hv := char_valid c
  have e1 : ¬ (0xD800 ≤ c.toNat ∧ c.toNat ≤ 0xDBFF) := by omega
  have e2 : ¬ (0xDC00 ≤ c.toNat ∧ c.toNat ≤ 0xDFFF) := by omega
  simp only [List.cons_append, hex4, parseStrBody, List.nil_append]
  simp only [hex4Val_hex4 c.toNat h]
  simp [e1, e2, Char.ofNat_toNat]

theorem parseStrBody_surrogates (f hi lo : Nat) (t : Str) (h1 : 0xD800 ≤ hi ∧ hi ≤ 0xDBFF) (h2 : 0xDC00 ≤ lo ∧ lo ≤ 0xDFFF) :
    parseStrBody (f + 1) ('\\' :: 'u' :: hex4 hi ++ '\\' :: 'u' :: hex4 lo ++ t)
      = consChar (Char.ofNat (0x10000 + (hi - 0xD800) * 1024 + (lo - 0xDC00))) (parseStrBody f t) := by
  have a1 : hi < 65536 := by omega
  have a2 : lo < 65536 := by omega
  have d1 : ¬ ('\\' = '"') := by decide
  simp only [List.cons_append, hex4, parseStrBody, List.nil_append]
  simp only [hex4Val_hex4 _ a1, hex4Val_hex4 _ a2]
  rw [if_neg d1, if_pos h1]
  simp only [and_self, if_true, if_pos h2]

theorem parseStrBody_pair (f : Nat) (c : Char) (t : Str) (h : ¬ c.toNat < 65536) :
    parseStrBody (f + 1) ('\\' :: 'u' :: hex4 (0xD800 + (c.toNat - 0x10000) / 1024) ++ '\\' :: 'u' :: hex4 (0xDC00 + (c.toNat - 0x10000) % 1024) ++ t)
      = consChar c (parseStrBody f t) := by
  have hv := char_valid c
  have e3 : 0x10000 + (0xD800 + (c.toNat - 0x10000) / 1024 - 0xD800) * 1024 + (0xDC00 + (c.toNat - 0x10000) % 1024 - 0xDC00) = c.toNat := by omega
  rw [parseStrBody_surrogates f _ _ t (by omega) (by omega), e3, Char.ofNat_toNat]

abbrev PrintableAscii (c : Char) : Prop := 0x20 ≤ c.toNat ∧ c.toNat < 0x7f

/-- `\uXXXX` -/
def uEsc (n : Nat) : Str := '\\' :: 'u' :: hex4 n

/-- what `json.dumps` writes for one character, by kind of character -/
inductive EscShape (c : Char) : Str → Prop
  | short (e : Char) (hp : PrintableAscii e) (hs : simpleEsc e = some c) : EscShape c ['\\', e]
  | plain (h1 : c ≠ '"') (h2 : c ≠ '\\') (hp : PrintableAscii c) : EscShape c [c]
  | bmp (h : c.toNat < 0x10000) : EscShape c (uEsc c.toNat)
  | pair (h : ¬ c.toNat < 0x10000) :
      EscShape c (uEsc (0xD800 + (c.toNat - 0x10000) / 1024) ++ uEsc (0xDC00 + (c.toNat - 0x10000) % 1024))

theorem escJ_shape (c : Char) : EscShape c (escJ c) := by
  by_cases hs : c ∈ ['"', '\\', '\n', '\r', '\t', '\x08', '\x0c']
  · simp only [List.mem_cons, List.not_mem_nil, or_false] at hs
    rcases hs with rfl | rfl | rfl | rfl | rfl | rfl | rfl <;> exact .short _ (by decide) (by decide)
  · simp only [List.mem_cons, List.not_mem_nil, or_false, not_or] at hs
    obtain ⟨h1, h2, h3, h4, h5, h6, h7⟩ := hs
    unfold escJ
    rw [if_neg h1, if_neg h2, if_neg h3, if_neg h4, if_neg h5, if_neg h6, if_neg h7]
    by_cases h8 : 0x20 ≤ c.toNat ∧ c.toNat < 0x7f
    · rw [if_pos h8]; exact .plain h1 h2 h8
    rw [if_neg h8]
    by_cases h9 : c.toNat < 0x10000
    · rw [if_pos h9]; exact .bmp h9
    rw [if_neg h9]
    exact .pair h9

theorem parseStrBody_escJ (f : Nat) (c : Char) (t : Str) : parseStrBody (f + 1) (escJ c ++ t) = consChar c (parseStrBody f t) := by
  have h := escJ_shape c
  generalize escJ c = r at h
  cases h with
  | short e _ hs => exact parseStrBody_simple f e c t hs
  | plain h1 h2 hp => exact parseStrBody_plain f c t h1 h2 (by omega)
  | bmp h => exact parseStrBody_bmp f c t h
  | pair h => rw [uEsc, uEsc, List.append_assoc]; exact parseStrBody_pair f c t h

theorem hexDigit_ascii (k : Nat) : PrintableAscii (hexDigit k) := by
  have h : ∀ j, j < 16 → PrintableAscii (hexDigit j) := by decide
  rw [hexDigit_mod]; exact h _ (Nat.mod_lt _ (by decide))

theorem uEsc_ascii (n : Nat) : ∀ x ∈ uEsc n, PrintableAscii x := by
  simp only [PrintableAscii, uEsc, hex4, List.forall_mem_cons, hexDigit_ascii, and_self, List.not_mem_nil, false_imp_iff, implies_true, and_true]
  decide

/-- `ensure_ascii`: only printable ASCII is written -/
theorem escJ_ascii (c : Char) : ∀ x ∈ escJ c, PrintableAscii x := by
  have h := escJ_shape c
  generalize escJ c = r at h
  cases h with
  | short e hp hs => exact List.forall_mem_cons.mpr ⟨by decide, List.forall_mem_singleton.mpr hp⟩
  | plain h1 h2 hp => exact List.forall_mem_singleton.mpr hp
  | bmp h => exact uEsc_ascii _
  | pair h => exact List.forall_mem_append.mpr ⟨uEsc_ascii _, uEsc_ascii _⟩
theorem escBody_ascii (v : Str) : ∀ x ∈ escBody v, PrintableAscii x := by
  induction v with
  | nil => exact fun _ h => nomatch h
  | cons c cs ih => exact List.forall_mem_append.mpr ⟨escJ_ascii c, ih⟩

theorem dumpStr_ascii (v : Str) : ∀ x ∈ dumpStr v, PrintableAscii x := by
  have q : PrintableAscii '"' := by decide
  exact List.forall_mem_cons.mpr ⟨q, List.forall_mem_append.mpr ⟨escBody_ascii v, List.forall_mem_cons.mpr ⟨q, fun _ h => nomatch h⟩⟩⟩

theorem escJ_ne_nil (c : Char) : escJ c ≠ [] := by
  have h := escJ_shape c
  generalize escJ c = r at h
  cases h <;> simp [uEsc]

theorem length_le_escBody (v : Str) : v.length ≤ (escBody v).length := by
  induction v with
  | nil => simp [escBody]
  | cons c cs ih =>
    have := List.length_pos_iff.mpr (escJ_ne_nil c)
    simp only [escBody, List.length_cons, List.length_append]; omega

theorem parseStrBody_escBody (v t : Str) (f : Nat) (hf : v.length + 1 ≤ f) :
    parseStrBody f (escBody v ++ '"' :: t) = .ok (v, t) := by
  induction v generalizing f with
  | nil =>
    obtain ⟨f', rfl⟩ : ∃ f', f = f' + 1 := ⟨f - 1, by simp at hf; omega⟩
    simp [escBody, parseStrBody]
  | cons c cs ih =>
    obtain ⟨f', rfl⟩ : ∃ f', f = f' + 1 := ⟨f - 1, by simp at hf; omega⟩
    simp only [escBody, List.append_assoc]
    rw [parseStrBody_escJ, ih f' (by simp at hf ⊢; omega)]
    rfl

theorem parseStr_escBody (v t : Str) : parseStr (escBody v ++ '"' :: t) = .ok (v, t) := by
  unfold parseStr
  apply parseStrBody_escBody
  have := length_le_escBody v
  simp only [List.length_append, List.length_cons]; omega

theorem digitsVal_natToStr (n : Nat) : digitsVal (Text.natToStr n) = n := Text.ofDigitChars_natToStr n

theorem digit_ascii {c : Char} (h : Text.isDigit c = true) : PrintableAscii c := by
  have := Text.isDigit_toNat h
  exact ⟨by omega, by omega⟩

/-- the text after a number does not continue it -/
def NumEnd (rest : Str) : Prop := ∀ c t, rest = c :: t → Text.isDigit c = false ∧ c ≠ '.' ∧ c ≠ 'e' ∧ c ≠ 'E'

theorem numEnd_nil : NumEnd [] := fun _ _ h => nomatch h

theorem numEnd_cons (c : Char) (t : Str) (h : Text.isDigit c = false ∧ c ≠ '.' ∧ c ≠ 'e' ∧ c ≠ 'E') : NumEnd (c :: t) := by
  intro c' t' e; cases e; exact h

theorem NumEnd.head {rest : Str} (hr : NumEnd rest) : ∀ a ∈ rest.head?, Text.isDigit a = false := by
  cases rest with
  | nil => exact fun _ h => nomatch h
  | cons c t => intro a ha; cases ha; exact (hr c t rfl).1

theorem parseNum_nat (neg : Bool) (n : Nat) (rest : Str) (hr : NumEnd rest) :
    parseNum neg (Text.natToStr n ++ rest) = .ok (.int (if neg then - (n : Int) else (n : Int)), rest) := by
  obtain ⟨d, ds, e, h0⟩ := Text.natToStr_shape n
  have h1 := Text.takeWhile_append_stop (Text.natToStr_digits n) hr.head
  have h2 := Text.dropWhile_append_stop (Text.natToStr_digits n) hr.head
  have hv := digitsVal_natToStr n
  unfold parseNum
  simp only [h1, h2]
  rw [e] at hv ⊢
  -- the integer part is the whole run and what follows it is `rest`: a leading `0` stands alone
  have hip : (if d = '0' then [d] else d :: ds) = d :: ds := by
    split
    · next hd => rw [h0 hd]
    · rfl
  have hr0 : (if d = '0' then ds ++ rest else rest) = rest := by
    split
    · next hd => rw [h0 hd]; rfl
    · rfl
  simp only [hip, hr0, hv]
  -- no fraction and no exponent: `rest` does not begin with `.`, `e` or `E`
  cases rest with
  | nil => simp
  | cons c t =>
    obtain ⟨_, hcp, hce1, hce2⟩ := hr c t rfl
    cases t with
    | nil => simp [hce1, hce2]
    | cons x xs => simp [hce1, hce2, hcp]
theorem skipWs_ws (w : Str) (c : Char) (t : Str) (hw : ∀ x ∈ w, isWs x = true) (hc : isWs c = false) : skipWs (w ++ c :: t) = c :: t := by
  rw [skipWs, List.dropWhile_append_of_pos hw, List.dropWhile_cons_of_neg (by simp [hc])]

theorem skipWs_append_ws {w : Str} (hw : ∀ x ∈ w, isWs x = true) (t : Str) : skipWs (w ++ t) = skipWs t :=
  List.dropWhile_append_of_pos hw

theorem skipWs_nonws (c : Char) (t : Str) (h : isWs c = false) : skipWs (c :: t) = c :: t :=
  skipWs_ws [] c t (fun _ hx => nomatch hx) h

theorem skipWs_space (t : Str) : skipWs (' ' :: t) = skipWs t :=
  List.dropWhile_cons_of_pos (by decide)

theorem digit_not_ws {d : Char} (hd : Text.isDigit d = true) : isWs d = false := by
  have h1 : d ≠ ' ' := Text.isDigit_ne hd (by decide)
  have h2 : d ≠ '\t' := Text.isDigit_ne hd (by decide)
  have h3 : d ≠ '\n' := Text.isDigit_ne hd (by decide)
  have h4 : d ≠ '\r' := Text.isDigit_ne hd (by decide)
  simp [isWs, h1, h2, h3, h4]

theorem s_null : s "null" = ['n', 'u', 'l', 'l'] := String.toList_ofList
theorem s_true : s "true" = ['t', 'r', 'u', 'e'] := String.toList_ofList
theorem s_false : s "false" = ['f', 'a', 'l', 's', 'e'] := String.toList_ofList
theorem s_nan : s "NaN" = ['N', 'a', 'N'] := String.toList_ofList
theorem s_inf : s "Infinity" = ['I', 'n', 'f', 'i', 'n', 'i', 't', 'y'] := String.toList_ofList
theorem s_ninf : s "-Infinity" = ['-', 'I', 'n', 'f', 'i', 'n', 'i', 't', 'y'] := String.toList_ofList

/-- the listed characters begin the other kinds of value: string, object, array, the keyword literals -/
theorem parseValue_number (f : Nat) (c : Char) (r : Str) (h : ∀ x ∈ ['"', '{', '[', 'n', 't', 'f', 'N', 'I'], c ≠ x)
    (hI : c = '-' → ∀ a ∈ r.head?, a ≠ 'I') :
    parseValue (f + 1) (c :: r) = if c = '-' then parseNum true r else parseNum false (c :: r) := by
  have hinf : (s "-Infinity").isPrefixOf (c :: r) = false := by
    rw [s_ninf]
    by_cases hc : c = '-'
    · cases r with
      | nil => rw [hc]; rfl
      | cons a r' => rw [hc]; simpa [List.isPrefixOf] using fun e => absurd e.symm (hI hc a rfl)
    · exact Text.isPrefixOf_cons_ne hc _ r
  simp only [parseValue, h '"' (by simp), h '{' (by simp), h '[' (by simp), if_false, s_null, s_true, s_false, s_nan, s_inf, hinf,
    Text.isPrefixOf_cons_ne (h 'n' (by simp)) _ r, Text.isPrefixOf_cons_ne (h 't' (by simp)) _ r, Text.isPrefixOf_cons_ne (h 'f' (by simp)) _ r,
    Text.isPrefixOf_cons_ne (h 'N' (by simp)) _ r, Text.isPrefixOf_cons_ne (h 'I' (by simp)) _ r, Bool.false_eq_true]

theorem parseValue_digit (f : Nat) (d : Char) (rest : Str) (hd : Text.isDigit d = true) :
    parseValue (f + 1) (d :: rest) = parseNum false (d :: rest) := by
  have hne : ∀ x, Text.isDigit x = false → d ≠ x := fun x hx => Text.isDigit_ne hd hx
  rw [parseValue_number f d rest (fun x hx => hne x ((by decide : ∀ x ∈ ['"', '{', '[', 'n', 't', 'f', 'N', 'I'], Text.isDigit x = false) x hx))
    (fun h => absurd h (hne _ (by decide))), if_neg (hne _ (by decide))]

theorem parseValue_neg (f : Nat) (d : Char) (rest : Str) (hd : Text.isDigit d = true) :
    parseValue (f + 1) ('-' :: d :: rest) = parseNum true (d :: rest) := by
  rw [parseValue_number f '-' _ (by decide) (fun _ a ha => by cases ha; exact Text.isDigit_ne hd (by decide)), if_pos rfl]
theorem parseValue_nat (f n : Nat) (rest : Str) (hr : NumEnd rest) :
    parseValue (f + 1) (Text.natToStr n ++ rest) = .ok (.int n, rest) := by
  obtain ⟨d, ds, e, hd⟩ := Text.natToStr_head_digit n
  have := parseNum_nat false n rest hr
  rw [e] at this ⊢
  rw [List.cons_append, parseValue_digit f d _ hd]
  exact this

theorem parseValue_negNat (f n : Nat) (rest : Str) (hr : NumEnd rest) :
    parseValue (f + 1) ('-' :: Text.natToStr n ++ rest) = .ok (.int (- (n : Int)), rest) := by
  obtain ⟨d, ds, e, hd⟩ := Text.natToStr_head_digit n
  have := parseNum_nat true n rest hr
  rw [e] at this ⊢
  rw [List.cons_append, List.cons_append, parseValue_neg f d _ hd]
  exact this

theorem parseValue_str (f : Nat) (v t : Str) : parseValue (f + 1) (dumpStr v ++ t) = .ok (.str v, t) := by
  have : dumpStr v ++ t = '"' :: (escBody v ++ '"' :: t) := by simp [dumpStr, List.append_assoc]
  rw [this]
  simp [parseValue, parseStr_escBody]

theorem parseValue_arr_empty {f : Nat} {t r2 : Str} (h : skipWs t = ']' :: r2) : parseValue (f + 1) ('[' :: t) = .ok (.arr [], r2) := by
  have d1 : ¬ ('[' = '"') := by decide
  have d2 : ¬ ('[' = '{') := by decide
  simp only [parseValue, d1, d2, if_false, if_true, h]

theorem parseValue_arr_items {f : Nat} {t : Str} {c2 : Char} {r2 : Str} {xs : List JV} {r : Str} (h : skipWs t = c2 :: r2) (hc : c2 ≠ ']')
    (hx : parseElems f (c2 :: r2) = .ok (xs, r)) : parseValue (f + 1) ('[' :: t) = .ok (.arr xs, r) := by
  have d1 : ¬ ('[' = '"') := by decide
  have d2 : ¬ ('[' = '{') := by decide
  simp only [parseValue, d1, d2, if_false, if_true, h, hc, hx]

theorem parseValue_obj_empty {f : Nat} {t r2 : Str} (h : skipWs t = '}' :: r2) : parseValue (f + 1) ('{' :: t) = .ok (.obj [], r2) := by
  have d1 : ¬ ('{' = '"') := by decide
  simp only [parseValue, d1, if_false, if_true, h]

theorem parseValue_obj_items {f : Nat} {t : Str} {c2 : Char} {r2 : Str} {kvs : List (Str × JV)} {r : Str} (h : skipWs t = c2 :: r2)
    (hc : c2 ≠ '}') (hm : parseMembers f (c2 :: r2) = .ok (kvs, r)) : parseValue (f + 1) ('{' :: t) = .ok (.obj kvs, r) := by
  have d1 : ¬ ('{' = '"') := by decide
  simp only [parseValue, d1, if_false, if_true, h, hc, hm]

/-- `w`: the white space before the closing brace -/
theorem parseMembers_last (f : Nat) (k vt : Str) (hvt : ∀ t, skipWs (vt ++ t) = vt ++ t) (v : JV) (w rest : Str) (hw : ∀ c ∈ w, isWs c = true)
    (hv : parseValue f (vt ++ (w ++ '}' :: rest)) = .ok (v, w ++ '}' :: rest)) :
    parseMembers (f + 1) (dumpStr k ++ (colonSep ++ (vt ++ (w ++ '}' :: rest)))) = .ok ([(k, v)], rest) := by
  have e : dumpStr k ++ (colonSep ++ (vt ++ (w ++ '}' :: rest))) = '"' :: (escBody k ++ '"' :: (':' :: ' ' :: (vt ++ (w ++ '}' :: rest)))) := by
    simp [dumpStr, colonSep, List.append_assoc]
  rw [e]
  simp only [parseMembers, parseStr_escBody, ne_eq, not_true_eq_false, if_false]
  rw [skipWs_nonws ':' _ (by decide)]
  simp only [skipWs_space, hvt, hv]
  rw [skipWs_ws w '}' rest hw (by decide)]
  simp

/-- `w`: the white space after the comma -/
theorem parseMembers_more (f : Nat) (k vt : Str) (hvt : ∀ t, skipWs (vt ++ t) = vt ++ t) (v : JV) (w more : Str) (kvs : List (Str × JV)) (rest : Str)
    (hw : ∀ c ∈ w, isWs c = true) (hmore : skipWs more = more)
    (hv : parseValue f (vt ++ ',' :: (w ++ more)) = .ok (v, ',' :: (w ++ more)))
    (hrest : parseMembers f more = .ok (kvs, rest)) :
    parseMembers (f + 1) (dumpStr k ++ (colonSep ++ (vt ++ ',' :: (w ++ more)))) = .ok ((k, v) :: kvs, rest) := by
  have e : dumpStr k ++ (colonSep ++ (vt ++ ',' :: (w ++ more))) = '"' :: (escBody k ++ '"' :: (':' :: ' ' :: (vt ++ ',' :: (w ++ more)))) := by
    simp [dumpStr, colonSep, List.append_assoc]
  rw [e]
  simp only [parseMembers, parseStr_escBody, ne_eq, not_true_eq_false, if_false]
  rw [skipWs_nonws ':' _ (by decide)]
  simp only [skipWs_space, hvt, hv]
  rw [skipWs_nonws ',' _ (by decide)]
  have d1 : ¬ (',' = '}') := by decide
  simp only [d1, if_false, if_true]
  rw [skipWs_append_ws hw, hmore, hrest]
  simp

theorem numEnd_delim {c : Char} (hc : c = ',' ∨ c = '}') (t : Str) : NumEnd (c :: t) := by
  refine numEnd_cons c t ?_
  rcases hc with rfl | rfl
  · decide
  · decide

/-- a printer whose values `parseValue` reads back inside an object, with fuel `F` -/
def ReadsBack {α} (pr : α → Str) (jv : α → JV) (F : Nat) : Prop :=
  (∀ a t, skipWs (pr a ++ t) = pr a ++ t) ∧
  ∀ a c t f, c = ',' ∨ c = '}' → F ≤ f → parseValue f (pr a ++ c :: t) = .ok (jv a, c :: t)

theorem readsBack_nat : ReadsBack Text.natToStr (fun n => JV.int n) 1 := by
  refine ⟨fun n t => ?_, fun n c t f hc hf => ?_⟩
  · obtain ⟨d, ds, e, hd⟩ := Text.natToStr_head_digit n
    rw [e]; exact skipWs_nonws d _ (digit_not_ws hd)
  · obtain ⟨f', rfl⟩ : ∃ f', f = f' + 1 := ⟨f - 1, by omega⟩
    exact parseValue_nat f' n (c :: t) (numEnd_delim hc t)

theorem readsBack_str : ReadsBack dumpStr JV.str 1 := by
  refine ⟨fun v t => skipWs_nonws '"' _ (by decide), fun v c t f _ hf => ?_⟩
  obtain ⟨f', rfl⟩ : ∃ f', f = f' + 1 := ⟨f - 1, by omega⟩
  exact parseValue_str f' v _

theorem ReadsBack.sum {α β} {p1 : α → Str} {p2 : β → Str} {j1 : α → JV} {j2 : β → JV} {F : Nat}
    (h1 : ReadsBack p1 j1 F) (h2 : ReadsBack p2 j2 F) : ReadsBack (Sum.elim p1 p2) (Sum.elim j1 j2) F :=
  ⟨fun a => by cases a with | inl a => exact h1.1 a | inr b => exact h2.1 b,
   fun a => by cases a with | inl a => exact h1.2 a | inr b => exact h2.2 b⟩

/-- one `"key": value` entry of a dumped dict -/
def entry {α} (pr : α → Str) (kv : Str × α) : Str := dumpStr kv.1 ++ colonSep ++ pr kv.2

theorem dumpDict_eq {α} (pr : α → Str) (d : List (Str × α)) :
    dumpDict pr d = '{' :: (Text.join commaSep (d.map (entry pr)) ++ ['}']) := rfl

theorem join_entries_head {α} (pr : α → Str) (kv : Str × α) (d : List (Str × α)) :
    ∃ r, Text.join commaSep ((kv :: d).map (entry pr)) = '"' :: r := by
  cases d with
  | nil => exact ⟨_, by simp [Text.join, entry, dumpStr]; rfl⟩
  | cons kv2 d2 => exact ⟨_, by simp [Text.join, entry, dumpStr]; rfl⟩

theorem parseMembers_entries {α} {pr : α → Str} {jv : α → JV} {F : Nat} (h : ReadsBack pr jv F)
    (d : List (Str × α)) (hne : d ≠ []) (t : Str) (f : Nat) (hf : F + d.length ≤ f) :
    parseMembers f (Text.join commaSep (d.map (entry pr)) ++ '}' :: t) = .ok (d.map (fun kv => (kv.1, jv kv.2)), t) := by
  induction d generalizing f with
  | nil => exact absurd rfl hne
  | cons kv d ih =>
    obtain ⟨f', rfl⟩ : ∃ f', f = f' + 1 := ⟨f - 1, by simp at hf; omega⟩
    cases d with
    | nil =>
      simp only [List.map_cons, List.map_nil, Text.join, entry, List.append_assoc]
      exact parseMembers_last f' kv.1 (pr kv.2) (h.1 kv.2) (jv kv.2) [] t (fun _ h => nomatch h) (h.2 _ _ _ _ (Or.inr rfl) (by simp at hf; omega))
    | cons kv2 d2 =>
      obtain ⟨r2, hr2⟩ := join_entries_head pr kv2 d2
      have ih' := ih (by simp) f' (by simp at hf ⊢; omega)
      have e : Text.join commaSep ((kv :: kv2 :: d2).map (entry pr)) ++ '}' :: t
          = dumpStr kv.1 ++ (colonSep ++ (pr kv.2 ++ ',' :: ([' '] ++ (Text.join commaSep ((kv2 :: d2).map (entry pr)) ++ '}' :: t)))) := by
        simp [Text.join, entry, commaSep, List.append_assoc]
      rw [e]
      refine parseMembers_more f' kv.1 (pr kv.2) (h.1 kv.2) (jv kv.2) [' '] _ _ t (by decide) ?_ (h.2 _ _ _ _ (Or.inl rfl) (by simp at hf; omega)) ih'
      rw [hr2]; exact skipWs_nonws '"' _ (by decide)

theorem parseValue_dumpDict {α} {pr : α → Str} {jv : α → JV} {F : Nat} (h : ReadsBack pr jv F)
    (d : List (Str × α)) (hne : d ≠ []) (t : Str) (f : Nat) (hf : F + d.length + 1 ≤ f) :
    parseValue f (dumpDict pr d ++ t) = .ok (.obj (d.map (fun kv => (kv.1, jv kv.2))), t) := by
  obtain ⟨f', rfl⟩ : ∃ f', f = f' + 1 := ⟨f - 1, by omega⟩
  obtain ⟨kv, d', rfl⟩ := List.exists_cons_of_ne_nil hne
  obtain ⟨r, hr⟩ := join_entries_head pr kv d'
  have hm := parseMembers_entries h (kv :: d') hne t f' (by omega)
  rw [dumpDict_eq, List.cons_append, List.append_assoc, List.singleton_append]
  rw [hr, List.cons_append] at hm ⊢
  exact parseValue_obj_items (skipWs_nonws '"' _ (by decide)) (by decide) hm

/-- `F ≤ 5`: what the fuel `loads` gives covers -/
theorem loads_dumpDict_of {α} {pr : α → Str} {jv : α → JV} {F : Nat} (h : ReadsBack pr jv F)
    (d : List (Str × α)) (hne : d ≠ []) (hF : F ≤ 5) :
    loads (dumpDict pr d) = .ok (.obj (d.map (fun kv => (kv.1, jv kv.2)))) := by
  have hlen : d.length + 2 ≤ (dumpDict pr d).length := by
    have := Text.join_length_ge commaSep (d.map (entry pr)) (by
      intro x hx; obtain ⟨a, _, rfl⟩ := List.mem_map.mp hx
      simp [entry, dumpStr])
    rw [List.length_map] at this
    rw [dumpDict_eq]
    simp only [List.length_cons, List.length_append, List.length_nil]; omega
  have hp := parseValue_dumpDict h d hne [] (2 * (dumpDict pr d).length + 2) (by omega)
  rw [List.append_nil] at hp
  unfold loads
  rw [show skipWs (dumpDict pr d) = dumpDict pr d from skipWs_nonws '{' _ (by decide), hp]
  rfl

/-- the fields of one trimmed host-key entry, numbers to the left -/
def hksFields (h : Pol.HKS) : List (Str × (Nat ⊕ Str)) :=
  if h.caType = [] ∨ h.caSize = 0 then [(kHostkeySize, .inl h.size)]
  else [(kHostkeySize, .inl h.size), (kCaKeyType, .inr h.caType), (kCaKeySize, .inl h.caSize)]

theorem dumpHKS_eq (h : Pol.HKS) : dumpHKS h = dumpDict (Sum.elim Text.natToStr dumpStr) (hksFields h) := by
  unfold dumpHKS hksFields
  split <;> simp [dumpDict, Text.join, List.append_assoc]

theorem natToStr_ascii (n : Nat) : ∀ x ∈ Text.natToStr n, PrintableAscii x :=
  fun x hx => digit_ascii (Text.natToStr_digits n x hx)

theorem dumpDict_ascii {α} {pr : α → Str} (h : ∀ a, ∀ x ∈ pr a, PrintableAscii x) (d : List (Str × α)) :
    ∀ x ∈ dumpDict pr d, PrintableAscii x := by
  rw [dumpDict_eq]
  refine List.forall_mem_cons.mpr ⟨by decide, List.forall_mem_append.mpr ⟨fun x hx => ?_, by decide⟩⟩
  -- a character of the joined entries is in the separator or in one entry: a key, the colon, a value
  rcases Text.mem_join hx with hs | ⟨l, hl, hxl⟩
  · exact (by decide : ∀ x ∈ commaSep, PrintableAscii x) x hs
  · obtain ⟨kv, _, rfl⟩ := List.mem_map.mp hl
    exact List.forall_mem_append.mpr ⟨List.forall_mem_append.mpr ⟨dumpStr_ascii _, by decide⟩, h _⟩ x hxl
theorem dumpHKS_ascii (h : Pol.HKS) : ∀ x ∈ dumpHKS h, PrintableAscii x := by
  rw [dumpHKS_eq]
  exact dumpDict_ascii (fun a => by cases a with | inl n => exact natToStr_ascii n | inr v => exact dumpStr_ascii v) _

theorem dictSet_new {α} (acc : List (Str × α)) (k : Str) (v : α) (h : k ∉ acc.map (·.1)) : dictSet acc k v = acc ++ [(k, v)] := by
  fun_induction dictSet acc k v with
  | case1 => rfl
  | case2 kv rest heq => exact absurd (by simp [← heq]) h
  | case3 kv rest hne ih => rw [ih fun e => h (by simp [e])]; rfl

theorem foldl_dictSet_nodup {α} (kvs acc : List (Str × α)) (h : ((acc ++ kvs).map (·.1)).Nodup) :
    kvs.foldl (fun d kv => dictSet d kv.1 kv.2) acc = acc ++ kvs := by
  induction kvs generalizing acc with
  | nil => simp
  | cons kv rest ih =>
    have hk : kv.1 ∉ acc.map (·.1) := fun hm => by
      rw [List.map_append, List.map_cons] at h
      exact (List.nodup_append.mp h).2.2 _ hm _ List.mem_cons_self rfl
    rw [List.foldl_cons, dictSet_new acc kv.1 kv.2 hk, ih _ (by simpa using h), List.append_assoc]
    rfl

theorem dictOf_of_nodup {α} (kvs : List (Str × α)) (h : (kvs.map (·.1)).Nodup) : dictOf kvs = kvs := by
  unfold dictOf
  have := foldl_dictSet_nodup kvs [] (by simpa using h)
  simpa using this

theorem dictOf_map_snd {α β} (f : α → β) {d : List (Str × α)} (hnd : (d.map (·.1)).Nodup) :
    dictOf (d.map fun kv => (kv.1, f kv.2)) = d.map fun kv => (kv.1, f kv.2) :=
  dictOf_of_nodup _ (by rwa [List.map_map, show ((·.1) ∘ fun kv : Str × α => (kv.1, f kv.2)) = (·.1) from rfl])

end SshAudit.PolicyFile.Json
