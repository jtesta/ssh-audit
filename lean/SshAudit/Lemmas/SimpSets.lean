/- Simp sets of the development, declared here because a set cannot be used in the module that declares it. -/
import Lean.Meta.Tactic.Simp.RegisterCommand

/-- the equations of the instantiated `ReadBuf` methods of `Props/GenLogic6.lean` (`xRead…`): what each returns on a buffer and on an exception -/
register_simp_attr xread
