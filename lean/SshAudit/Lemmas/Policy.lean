/- `Model/Policy` (`policy.py`).  The idea the evaluator proofs rest on: a stage of `evaluate` only appends error records and clears `ret`
   exactly when it appends one (`Stage`, closed under composition and folds). -/
import SshAudit.Model.Policy
import SshAudit.Lemmas.Text
namespace SshAudit.Pol

/-- lets `simp` tell two error names apart by comparing the literals, without evaluating `toList` -/
theorem s_inj {a b : String} : s a = s b ↔ a = b := String.toList_inj

@[simp] theorem failWith_fst (st : St) (f : Str) (r : List Str) (o : Option (List Str)) (a : List Str) :
    (failWith st f r o a).1 = false := rfl

/-- `f` appends error records, each satisfying `E`, to `self._errors` whatever was there, and clears `ret` exactly when it appends one (`ok` false) -/
def Stage (E : PErr → Prop) (ok : Bool) (f : St → St) : Prop :=
  ∃ errs : List PErr, (∀ e ∈ errs, E e) ∧ errs.isEmpty = ok ∧ ∀ st, f st = (st.1 && ok, st.2 ++ errs)

namespace Stage
variable {E : PErr → Prop}

theorem id : Stage E true (fun st => st) :=
  ⟨[], by simp, rfl, fun st => by simp⟩

theorem congr {ok ok' : Bool} {f : St → St} (h : ok = ok') (hf : Stage E ok f) : Stage E ok' f := h ▸ hf

theorem comp {a b : Bool} {f g : St → St} (hf : Stage E a f) (hg : Stage E b g) : Stage E (a && b) (fun st => g (f st)) := by
  obtain ⟨ef, hef, rfl, hf⟩ := hf
  obtain ⟨eg, heg, rfl, hg⟩ := hg
  exact ⟨ef ++ eg, List.forall_mem_append.mpr ⟨hef, heg⟩, by cases ef <;> rfl, fun st => by simp [hf, hg, Bool.and_assoc]⟩

theorem of_failWith (f : Str) (r : List Str) (o : Option (List Str)) (a : List Str)
    (he : E { field := f, expectedRequired := r, expectedOptional := o.getD [[]], actual := a }) :
    Stage E false (fun st => failWith st f r o a) :=
  ⟨[_], List.forall_mem_singleton.mpr he, rfl, fun st => by simp [failWith]⟩

theorem of_stepIf (bad : Bool) (f : Str) (r : List Str) (o : Option (List Str)) (a : List Str)
    (he : E { field := f, expectedRequired := r, expectedOptional := o.getD [[]], actual := a }) :
    Stage E (!bad) (fun st => stepIf bad st f r o a) := by
  cases bad
  · exact id
  · exact of_failWith f r o a he

theorem foldl {α} (step : St → α → St) (ok : α → Bool) (hs : ∀ a, Stage E (ok a) (fun st => step st a)) (ts : List α) :
    Stage E (ts.all ok) (fun st => ts.foldl step st) := by
  induction ts with
  | nil => exact id
  | cons t ts ih => exact (hs t).comp ih

theorem snd_eq {ok : Bool} {f : St → St} (h : Stage E ok f) (st : St) : (f st).2 = st.2 ++ (f (true, [])).2 := by
  obtain ⟨errs, _, _, he⟩ := h
  simp [he]

end Stage

theorem sizeBad_iff (al : Bool) (a e : Nat) : sizeBad al a e = false ↔ sizeOk al a e := by
  unfold sizeBad sizeOk
  cases al
  · simp
  · simp [Nat.not_lt]

theorem listBad_iff (sub : Bool) (pol act cmp : List Str) : listBad sub pol act cmp = false ↔ listOk sub pol act cmp := by
  unfold listBad listOk
  cases sub <;> simp

theorem markerBad_iff (k pk : List Str) :
    markerBad k pk = false ↔ (strictS ∈ k → strictS ∈ pk) ∧ (strictC ∈ k → strictC ∈ pk) := by
  simp only [markerBad, Bool.or_eq_false_iff, Bool.and_eq_false_iff, List.contains_eq_mem, Bool.not_eq_false', decide_eq_false_iff_not,
    decide_eq_true_eq, Decidable.imp_iff_not_or]

theorem insertSorted_perm (k : Str) (l : List Str) : (insertSorted k l).Perm (k :: l) := by
  fun_induction insertSorted k l with
  | case1 => exact .refl _
  | case2 y ys _ ih => exact (ih.cons y).trans (.swap k y ys)
  | case3 y ys _ => exact .refl _

theorem mem_sortStrs (x : Str) (l : List Str) : x ∈ sortStrs l ↔ x ∈ l :=
  (Text.perm_foldr_insert insertSorted_perm l).mem_iff

theorem lookup_eq_none {α} {l : List (Str × α)} {k : Str} (h : k ∉ l.map (·.1)) : lookup l k = none :=
  Text.assoc_eq_none_iff.mpr h

theorem lookup_map {α β} (l : List (Str × α)) (f : α → β) (t : Str) :
    lookup (l.map (fun kv => (kv.1, f kv.2))) t = (lookup l t).map f := by
  unfold lookup
  rw [List.find?_map, Option.map_map, Option.map_map]
  rfl

theorem lookup_ne_nil {α} {l : List (Str × α)} {t : Str} {a : α} (h : lookup l t = some a) : l ≠ [] := by
  rintro rfl
  cases h

theorem normHKS_size (h : HKS) : (normHKS h).size = h.size := by
  unfold normHKS
  split <;> rfl

/-- stated for any consequent `Q`: the CA clause of `Satisfied` has this shape with the peer's record in `Q` -/
theorem normHKS_ca (h : HKS) (Q : Str → Nat → Prop) :
    ((normHKS h).caType ≠ [] ∧ 0 < (normHKS h).caSize → Q (normHKS h).caType (normHKS h).caSize) ↔
      (h.caType ≠ [] ∧ 0 < h.caSize → Q h.caType h.caSize) := by
  fun_cases normHKS h with
  | case1 hc =>
    have hf : ¬ (h.caType ≠ [] ∧ 0 < h.caSize) := fun h1 => hc.elim h1.1 (Nat.ne_of_gt h1.2)
    exact ⟨fun _ h1 => absurd h1 hf, fun _ h1 => absurd rfl h1.1⟩
  | case2 => exact Iff.rfl

theorem splitEq1_append (k v : Str) (hk : '=' ∉ k) : splitEq1 (k ++ '=' :: v) = some (k, v) := by
  induction k with
  | nil => simp [splitEq1]
  | cons c cs ih =>
    rw [List.mem_cons, not_or] at hk
    simp [splitEq1, Ne.symm hk.1, ih hk.2]

theorem splitEq1_none (l : Str) (h : '=' ∉ l) : splitEq1 l = none := by
  induction l with
  | nil => rfl
  | cons c cs ih =>
    rw [List.mem_cons, not_or] at h
    simp [splitEq1, Ne.symm h.1, ih h.2]

end SshAudit.Pol
