/- Facts about `Model/Report`, and about the recommendation pass `Ssh1Report.recsFor` that the SSH-2 and the SSH-1 report share, for the
   property files that reason about the report (the clean-peer lemmas at `Clean` serve C17 alone).  The ideas: a line's notes are `algTexts`
   of its name alone (`algTexts_eq`); the status fold has a closed form for any start value (`foldStatus_eq`); `post_process_findings`
   appends to description slots 2 and 3 only, so whatever does not read them sees the master table (`lookup_postProcess_map`); what it
   reads of the peer is the role's marker and the Terrapin sets (`postProcess_db`, `markerFor_client`, `mem_Venc`, `mem_Vmac`). -/
import SshAudit.Model.Ssh1Report
import SshAudit.Lemmas.Text
namespace SshAudit.Report
open SshAudit

theorem algLines_append (rf : List Str) (db : DB) (cat : Str) (xs ys : List Str) (hk : List (Str × HostKeyInfo)) (dh : List (Str × Nat)) :
    algLines rf db cat (xs ++ ys) hk dh = algLines rf db cat xs hk dh ++ algLines rf db cat ys hk dh := by
  simp [algLines, List.filterMap_append]

theorem algLines_nil (rf : List Str) (db : DB) (cat : Str) (hk : List (Str × HostKeyInfo)) (dh : List (Str × Nat)) :
    algLines rf db cat [] hk dh = [] := rfl

theorem algLines_cons (rf : List Str) (db : DB) (cat : Str) (n : Str) (ns : List Str) (hk : List (Str × HostKeyInfo)) (dh : List (Str × Nat)) :
    algLines rf db cat (n :: ns) hk dh = algLines rf db cat [n] hk dh ++ algLines rf db cat ns hk dh :=
  algLines_append rf db cat [n] ns hk dh

/-- is a line printed for this name? (`len(alg_name.strip()) == 0` on the normalised name) -/
def printed (cat n : Str) : Bool := !(Text.stripU (gssNormalize cat n)).isEmpty

theorem algTexts_eq (db : DB) (c n : Str) :
    algTexts db c n = if printed c n then some (match DBm.lookup db c (gssNormalize c n) with
      | some e => (entryTexts e, false)
      | none => ([unknownNote], true)) else none := by
  unfold algTexts printed
  simp only
  cases (Text.stripU (gssNormalize c n)).isEmpty
  · cases DBm.lookup db c (gssNormalize c n) <;> rfl
  · rfl

theorem algTexts_eq_some_iff {db : DB} {c n : Str} {v : List Note × Bool} :
    algTexts db c n = some v ↔ printed c n = true ∧
      ((DBm.lookup db c (gssNormalize c n) = none ∧ v = ([unknownNote], true)) ∨
        ∃ e, DBm.lookup db c (gssNormalize c n) = some e ∧ v = (entryTexts e, false)) := by
  rw [algTexts_eq]
  cases printed c n
  · simp
  · cases DBm.lookup db c (gssNormalize c n) <;> simp [eq_comm]

theorem algTexts_isSome (db : DB) (cat n : Str) : (algTexts db cat n).isSome = printed cat n := by
  rw [algTexts_eq]
  cases printed cat n <;> rfl

theorem printed_of_algTexts {db : DB} {c n : Str} {v : List Note × Bool} (h : algTexts db c n = some v) : printed c n = true :=
  (algTexts_eq_some_iff.mp h).1

theorem algTexts_known_iff (db : DB) (c n : Str) (ts : List Note) :
    algTexts db c n = some (ts, false) ↔ printed c n = true ∧ ∃ e, DBm.lookup db c (gssNormalize c n) = some e ∧ ts = entryTexts e := by
  simp [algTexts_eq_some_iff, unknownNote]

theorem algLines_single (rf : List Str) (db : DB) (cat n : Str) (hk : List (Str × HostKeyInfo)) (dh : List (Str × Nat)) :
    algLines rf db cat [n] hk dh =
      match algTexts db cat n with
      | some (ts, unk) => [{ cat := cat, name := n, shown := shownName rf cat n hk dh, notes := ts, unknown := unk }]
      | none => [] := by
  unfold algLines
  cases h : algTexts db cat n with
  | none => simp [h]
  | some v => obtain ⟨ts, unk⟩ := v; simp [h]

theorem algLines_names (rf : List Str) (db : DB) (cat : Str) (ns : List Str) (hk : List (Str × HostKeyInfo)) (dh : List (Str × Nat)) :
    (algLines rf db cat ns hk dh).map (·.name) = ns.filter (printed cat) := by
  rw [algLines, List.map_filterMap, ← List.filterMap_eq_filter]
  congr 1
  funext n
  rw [algTexts_eq]
  cases hp : printed cat n <;> simp [Option.guard, hp]

theorem mem_algLines (rf : List Str) (db : DB) (c : Str) (ns : List Str) (hk : List (Str × HostKeyInfo)) (dh : List (Str × Nat)) (l : AlgLine) :
    l ∈ algLines rf db c ns hk dh ↔
      l.name ∈ ns ∧ l.cat = c ∧ l.shown = shownName rf c l.name hk dh ∧ algTexts db c l.name = some (l.notes, l.unknown) := by
  unfold algLines
  simp only [List.mem_filterMap, Option.map_eq_some_iff]
  constructor
  · rintro ⟨n, hn, ⟨ts, unk⟩, ht, rfl⟩
    exact ⟨hn, rfl, rfl, ht⟩
  · rintro ⟨hn, hc, hs, ht⟩
    subst hc
    exact ⟨l.name, hn, (l.notes, l.unknown), ht, by rw [← hs]⟩

theorem AlgLine.ext {l l' : AlgLine} (hc : l.cat = l'.cat) (hn : l.name = l'.name) (hs : l.shown = l'.shown) (ht : l.notes = l'.notes)
    (hu : l.unknown = l'.unknown) : l = l' := by
  cases l; cases l'
  simp only at hc hn hs ht hu
  rw [hc, hn, hs, ht, hu]

theorem algTexts_line_unique {db : DB} {c : Str} {l l' : AlgLine} (h : algTexts db c l.name = some (l.notes, l.unknown))
    (h' : algTexts db c l'.name = some (l'.notes, l'.unknown)) (hn : l.name = l'.name) : l.notes = l'.notes ∧ l.unknown = l'.unknown := by
  rw [hn, h'] at h
  exact Prod.mk.inj (Option.some.inj h).symm

theorem shownName_nil (rf : List Str) (cat n : Str) : shownName rf cat n [] [] = n := by
  simp only [shownName, List.find?_nil, ite_self]

theorem shown_name_prefix (rf : List Str) (cat n : Str) (hk : List (Str × HostKeyInfo)) (dh : List (Str × Nat)) :
    shownName rf cat n hk dh = n ∨ ∃ sfx, shownName rf cat n hk dh = n ++ s " (" ++ sfx := by
  -- three leaves carry a suffix: a key exchange with a measured modulus, a certificate with its CA, an RSA-family host key
  fun_cases shownName rf cat n hk dh with
  | case1 => exact Or.inr ⟨_, List.append_assoc _ _ _⟩
  | case3 =>
    exact Or.inr ⟨_, by
      simp only [List.append_assoc]
      rfl⟩
  | case4 => exact Or.inr ⟨_, List.append_assoc _ _ _⟩
  | _ => exact Or.inl rfl

theorem mem_algLines_plain (db : DB) (c : Str) (ns : List Str) (l : AlgLine) :
    l ∈ algLines [] db c ns [] [] ↔ l.name ∈ ns ∧ l.cat = c ∧ l.shown = l.name ∧ algTexts db c l.name = some (l.notes, l.unknown) := by
  rw [mem_algLines, shownName_nil]

theorem cat_of_mem_plain {db : DB} {c : Str} {ns : List Str} {l : AlgLine} (h : l ∈ algLines [] db c ns [] []) : l.cat = c :=
  ((mem_algLines_plain db c ns l).mp h).2.1

theorem shown_of_mem_plain {db : DB} {c : Str} {ns : List Str} {l : AlgLine} (h : l ∈ algLines [] db c ns [] []) : l.shown = l.name :=
  ((mem_algLines_plain db c ns l).mp h).2.2.1

theorem texts_of_mem_plain {db : DB} {c : Str} {ns : List Str} {l : AlgLine} (h : l ∈ algLines [] db c ns [] []) :
    algTexts db c l.name = some (l.notes, l.unknown) :=
  ((mem_algLines_plain db c ns l).mp h).2.2.2

theorem gssNormalize_cases (c n : Str) : gssNormalize c n = n ∨ (c = kexC ∧ Text.startsWith n (s "gss-") = true) := by
  by_cases h : c = kexC ∧ Text.startsWith n (s "gss-") = true
  · exact Or.inr h
  · exact Or.inl (if_neg h)

theorem printed_eq (c n : Str) : printed c n = !(gssNormalize c n).all Text.isUSpace := by
  unfold printed
  rw [Text.stripU_eq, Text.stripBy_isEmpty]

/-- a name cut at its last `-` -/
theorem gssNormalize_split (a t : Str) (hs : Text.startsWith (a ++ '-' :: t) (s "gss-") = true) (ht : '-' ∉ t) :
    gssNormalize kexC (a ++ '-' :: t) = a ++ s "-*" := by
  unfold gssNormalize
  rw [if_pos ⟨rfl, hs⟩, Text.rindex_last '-' a ht]
  simp only
  rw [List.take_left' rfl]

theorem gssNormalize_gss (p t : Str) (ht : '-' ∉ t) : gssNormalize kexC (s "gss-" ++ p ++ '-' :: t) = s "gss-" ++ p ++ s "-*" :=
  gssNormalize_split _ t (by simp [Text.startsWith, s]) ht

/-- the wildcard form ends in `-*`, whose `-` is again the last one -/
theorem gssNormalize_idem (c n : Str) : gssNormalize c (gssNormalize c n) = gssNormalize c n := by
  rcases gssNormalize_cases c n with h | ⟨rfl, hs⟩
  · rw [h, h]
  · have hm : '-' ∈ n.reverse := by
      obtain ⟨q, rfl⟩ := List.isPrefixOf_iff_prefix.mp hs
      simp [s]
    obtain ⟨t, a, hr, ht⟩ := List.eq_append_cons_of_mem hm
    obtain rfl : n = a.reverse ++ '-' :: t.reverse := by
      simpa using congrArg List.reverse hr
    rw [gssNormalize_split _ _ hs (fun h => ht (List.mem_reverse.mp h))]
    rcases gssNormalize_cases kexC (a.reverse ++ s "-*") with h | ⟨_, hs'⟩
    · exact h
    · exact gssNormalize_split _ ['*'] hs' (by decide)

theorem notesOf_append (lvl : Level) (a b : List (Option Str)) : notesOf lvl (a ++ b) = notesOf lvl a ++ notesOf lvl b := by
  simp [notesOf, List.filterMap_append]

theorem notesOf_map_some (lvl : Level) (l : List Str) : notesOf lvl (l.map some) = l.map (fun t => ({ level := lvl, text := t } : Note)) := by
  unfold notesOf
  induction l with
  | nil => rfl
  | cons x xs ih => simp only [List.map_cons, List.filterMap_cons, id] at ih ⊢; rw [ih]

theorem notesOf_level (lvl : Level) (l : List (Option Str)) : ∀ n ∈ notesOf lvl l, n.level = lvl := by
  intro n hn
  obtain ⟨t, _, rfl⟩ := List.mem_map.mp hn
  rfl

theorem sinceNote_level (e : Entry) : ∀ n ∈ sinceNote e, n.level = .info := by
  fun_cases sinceNote e with
  | case1 => exact fun n hn => by rw [List.mem_singleton.mp hn]
  | _ => nofun

theorem filter_level_const (l : List Note) (a b : Level) (h : ∀ n ∈ l, n.level = a) : l.filter (·.level = b) = if a = b then l else [] := by
  split
  · next e => exact List.filter_eq_self.mpr fun n hn => by simp [h n hn, e]
  · next e => exact List.filter_eq_nil_iff.mpr fun n hn => by simp [h n hn, e]

theorem map_text_notesOf (lvl : Level) (l : List (Option Str)) : (notesOf lvl l).map (·.text) = l.filterMap id := by
  simp [notesOf, List.map_map, Function.comp_def]

theorem rawTexts_at (e : Entry) (lvl : Level) :
    ((rawTexts e).filter (·.level = lvl)).map (·.text) =
      match lvl with
      | .fail => (DBm.slot e 1).filterMap id
      | .warn => (DBm.slot e 2).filterMap id
      | .info => (sinceNote e).map (·.text) ++ (DBm.slot e 3).filterMap id := by
  unfold rawTexts
  simp only [List.filter_append, filter_level_const _ _ lvl (notesOf_level _ _), filter_level_const _ _ lvl (sinceNote_level e),
    List.map_append, apply_ite (List.map _), map_text_notesOf, List.map_nil]
  cases lvl <;> simp

theorem slot_json (e : Entry) (k : Nat) :
    ((if e.desc.length ≥ k + 1 ∧ (DBm.slot e k).length > 0 then some (DBm.slot e k) else none).getD []).filterMap id = (DBm.slot e k).filterMap id := by
  split
  · rfl
  · next hk =>
    -- the slot is empty: too short a description reads as `[]`
    have h0 : DBm.slot e k = [] := by
      by_cases hlen : e.desc.length ≥ k + 1
      · exact List.eq_nil_of_length_eq_zero (by have := fun h => hk ⟨hlen, h⟩; omega)
      · rw [DBm.slot, List.getD_eq_getElem?_getD, List.getElem?_eq_none (by omega)]; rfl
    rw [h0]; rfl

theorem rawTexts_ordered (e : Entry) (n0 : Note) (rest : List Note) (h : rawTexts e = n0 :: rest) (h0 : n0.level = .info) :
    ∀ n ∈ rest, n.level = .info := by
  unfold rawTexts at h
  rw [List.append_assoc, List.append_assoc] at h
  -- the head is an `info` note, so the block of failures in front is empty ...
  rw [Text.nil_of_head (·.level = .info) (fun y hy => by rw [notesOf_level _ _ y hy]; decide) h h0, List.nil_append] at h
  -- ... and so is the block of warnings
  rw [Text.nil_of_head (·.level = .info) (fun y hy => by rw [notesOf_level _ _ y hy]; decide) h h0, List.nil_append] at h
  intro n hn
  rcases List.mem_append.mp (h ▸ List.mem_cons_of_mem n0 hn) with h1 | h1
  · exact sinceNote_level e n h1
  · exact notesOf_level .info _ n h1

theorem foldStatus_append (st : Nat) (a b : List Note) : foldStatus st (a ++ b) = foldStatus (foldStatus st a) b :=
  List.foldl_append

theorem foldStatus_cons (st : Nat) (n : Note) (N : List Note) :
    foldStatus st (n :: N) = foldStatus (match n.level with | .fail => 3 | .warn => if st ≠ 3 then 2 else st | .info => st) N := rfl

theorem foldStatus_eq (st : Nat) (N : List Note) :
    foldStatus st N = if N.any (·.level = .fail) then 3 else if N.any (·.level = .warn) ∧ st ≠ 3 then 2 else st := by
  induction N generalizing st with
  | nil => rfl
  | cons n N ih =>
    obtain ⟨lv, t⟩ := n
    rw [foldStatus_cons, ih, List.any_cons, List.any_cons]
    cases lv
    · simp
    · by_cases h3 : st = 3
      · simp [h3]
      · simp [h3]
    · rfl

theorem foldStatus_three (N : List Note) : foldStatus 3 N = 3 := by
  rw [foldStatus_eq]; simp only [ne_eq, not_true, and_false, if_false, ite_self]

theorem foldStatus_two (N : List Note) : foldStatus 2 N = if N.any (·.level = .fail) then 3 else 2 := by
  rw [foldStatus_eq]; simp only [ne_eq, Nat.reduceEqDiff, not_false_eq_true, and_true, ite_self]

theorem foldStatus_zero (N : List Note) :
    foldStatus 0 N = if N.any (·.level = .fail) then 3 else if N.any (·.level = .warn) then 2 else 0 := by
  rw [foldStatus_eq]; simp only [ne_eq, Nat.reduceEqDiff, not_false_eq_true, and_true]

theorem foldStatus_congr_mem (st : Nat) {N M : List Note} (h : ∀ n, n ∈ N ↔ n ∈ M) : foldStatus st N = foldStatus st M := by
  rw [foldStatus_eq, foldStatus_eq, Text.any_congr_mem _ h, Text.any_congr_mem _ h]

theorem foldStatus_iff (N : List Note) :
    (foldStatus 0 N = 3 ↔ ∃ n ∈ N, n.level = .fail) ∧
    (foldStatus 0 N = 2 ↔ (∀ n ∈ N, n.level ≠ .fail) ∧ ∃ n ∈ N, n.level = .warn) ∧
    (foldStatus 0 N = 0 ↔ ∀ n ∈ N, n.level = .info) := by
  -- every quantifier is one of the two Booleans of the closed form
  have eF : (∃ n ∈ N, n.level = .fail) ↔ N.any (·.level = .fail) = true := by simp
  have eF' : (∀ n ∈ N, n.level ≠ .fail) ↔ N.any (·.level = .fail) = false := by simp
  have eW : (∃ n ∈ N, n.level = .warn) ↔ N.any (·.level = .warn) = true := by simp
  have eI : (∀ n ∈ N, n.level = .info) ↔ N.any (·.level = .fail) = false ∧ N.any (·.level = .warn) = false := by
    simp only [List.any_eq_false, decide_eq_true_eq, ← forall_and]
    exact forall_congr' fun n => imp_congr_right fun _ => by cases n.level <;> simp
  rw [foldStatus_zero, eI, eF, eF', eW]
  cases N.any (·.level = .fail) <;> cases N.any (·.level = .warn) <;> simp

theorem foldStatus_range (N : List Note) : foldStatus 0 N = 0 ∨ foldStatus 0 N = 2 ∨ foldStatus 0 N = 3 := by
  rw [foldStatus_zero]
  split
  · exact .inr (.inr rfl)
  · split
    · exact .inr (.inl rfl)
    · exact .inl rfl

theorem statusOfLines_eq (st : Nat) (ls : List AlgLine) : statusOfLines st ls = foldStatus st (ls.flatMap (·.notes)) := by
  simp only [statusOfLines, foldStatus, List.foldl_flatMap]

theorem cat_updateEntry (db : DB) (cat name : Str) (f : List (List (Option Str)) → List (List (Option Str))) (c : Str) :
    DBm.cat (updateEntry db cat name f) c =
      if c = cat then (DBm.cat db c).map (fun e => if e.name = name then { e with desc := f e.desc } else e) else DBm.cat db c := by
  unfold DBm.cat updateEntry
  rw [Text.find?_map_comm _ _ (by intro x; obtain ⟨a, b⟩ := x; simp only; split <;> rfl)]
  cases h : db.find? (·.1 = c) with
  | none => simp
  | some ce =>
    obtain ⟨c', es⟩ := ce
    rw [Option.map_some, ← show c' = c by simpa using List.find?_some h]
    by_cases hcc : c' = cat
    · simp only [hcc, if_true]
    · simp only [hcc, if_false]

theorem keys_updateEntry (db : DB) (cat name : Str) (f : List (List (Option Str)) → List (List (Option Str))) (c : Str) :
    DBm.keys (updateEntry db cat name f) c = DBm.keys db c := by
  unfold DBm.keys
  rw [cat_updateEntry]
  split
  · rw [List.map_map]
    exact List.map_congr_left fun e _ => apply_ite Entry.name _ _ _ |>.trans (ite_self _)
  · rfl

theorem keys_foldl_updateEntry (cat : Str) (f : List (List (Option Str)) → List (List (Option Str))) (names : List Str) (db : DB) (c : Str) :
    DBm.keys (names.foldl (fun d x => updateEntry d cat x f) db) c = DBm.keys db c := by
  induction names generalizing db with
  | nil => rfl
  | cons x xs ih => rw [List.foldl_cons, ih, keys_updateEntry]

theorem lookup_updateEntry (db : DB) (cat name : Str) (f : List (List (Option Str)) → List (List (Option Str))) (c n : Str) :
    DBm.lookup (updateEntry db cat name f) c n =
      if c = cat ∧ n = name then (DBm.lookup db c n).map (fun e => { e with desc := f e.desc }) else DBm.lookup db c n := by
  unfold DBm.lookup
  rw [cat_updateEntry]
  by_cases hc : c = cat
  · simp only [hc, if_true, true_and]
    rw [Text.find?_map_comm _ _ (by intro e; split <;> rfl)]
    cases h : (DBm.cat db cat).find? (·.name = n) with
    | none => simp
    | some e =>
      rw [Option.map_some, ← show e.name = n by simpa using List.find?_some h]
      split <;> rfl
  · simp [hc]

/-! `lookup_updateEntry` says what a lookup returns after one edit.  The `_map` lemmas below are for an observation `g` that the edit leaves
unchanged (`hg`): through one edit, a fold of edits, all of `postProcess`.  A slot the edit does change is read through `lookup_updateEntry`
and `slot_appendAt`. -/

theorem lookup_updateEntry_map {β : Type} (g : Entry → β) (db : DB) (cat name : Str) (f : List (List (Option Str)) → List (List (Option Str)))
    (hg : ∀ e : Entry, g { e with desc := f e.desc } = g e) (c n : Str) :
    (DBm.lookup (updateEntry db cat name f) c n).map g = (DBm.lookup db c n).map g := by
  rw [lookup_updateEntry]
  split
  · cases DBm.lookup db c n with
    | none => rfl
    | some e => exact congrArg some (hg e)
  · rfl

theorem lookup_foldl_map {β : Type} (g : Entry → β) (cat : Str) (f : List (List (Option Str)) → List (List (Option Str)))
    (hg : ∀ e : Entry, g { e with desc := f e.desc } = g e) (names : List Str) (db : DB) (c n : Str) :
    (DBm.lookup (names.foldl (fun d x => updateEntry d cat x f) db) c n).map g = (DBm.lookup db c n).map g := by
  induction names generalizing db with
  | nil => rfl
  | cons x xs ih => rw [List.foldl_cons, ih, lookup_updateEntry_map g db cat x f hg]

/-- `post_process_findings` only appends to description slots 2 (warnings) and 3 (notes): an observation that does not read them sees a
    looked-up entry as in the master table -/
theorem lookup_postProcess_map {β : Type} (g : Entry → β)
    (hg : ∀ (e : Entry) i k t, 2 ≤ i → g { e with desc := appendAt i k t e.desc } = g e)
    (db : DB) (peer : Peer) (client : Bool) (bsw : Option Str) (rn : Str) (c n : Str) :
    (DBm.lookup (postProcess db peer client bsw rn).db c n).map g = (DBm.lookup db c n).map g := by
  show (DBm.lookup (dbAfterTerrapin (dbAfterFallback db peer bsw) peer client) c n).map g = _
  have hfb : (DBm.lookup (dbAfterFallback db peer bsw) c n).map g = (DBm.lookup db c n).map g := by
    unfold dbAfterFallback
    split
    · exact lookup_updateEntry_map g db _ _ _ (fun e => hg e 3 4 _ (by decide)) c n
    · rfl
  have ht := fun cat => lookup_foldl_map g cat _ (fun e => hg e 2 3 terrapinText (by decide))
  unfold dbAfterTerrapin
  split
  · exact hfb
  · exact (ht _ _ _ c n).trans ((ht _ _ _ c n).trans hfb)

theorem getD_appendAt (i k : Nat) (t : Str) (d : List (List (Option Str))) (j : Nat) :
    (appendAt i k t d).getD j [] =
      if j = i ∧ i < max d.length k then d.getD i [] ++ [some t] else d.getD j [] := by
  have hlen : max d.length k = (d ++ List.replicate (k - d.length) ([] : List (Option Str))).length := by
    rw [List.length_append, List.length_replicate]; omega
  rw [appendAt, ← Text.getD_append_replicate_nil d (k - d.length) j, ← Text.getD_append_replicate_nil d (k - d.length) i, hlen]
  generalize d ++ List.replicate (k - d.length) [] = d'
  simp only [List.getD_eq_getElem?_getD, List.getElem?_mapIdx]
  by_cases hj : j = i
  · subst hj
    by_cases hl : j < d'.length
    · simp [hl]
    · simp [hl]
  · cases d'[j]? <;> simp [hj]

/-- `getD_appendAt` as `DBm.slot` of the edited entry reads it -/
theorem slot_appendAt (e : Entry) (i k : Nat) (t : Str) (j : Nat) :
    DBm.slot { e with desc := appendAt i k t e.desc } j =
      if j = i ∧ i < max e.desc.length k then DBm.slot e i ++ [some t] else DBm.slot e j :=
  getD_appendAt i k t e.desc j

theorem postProcess_db (db : DB) (peer : Peer) (client : Bool) (bsw : Option Str) (rn : Str) :
    (postProcess db peer client bsw rn).db = dbAfterTerrapin (dbAfterFallback db peer bsw) peer client := rfl

theorem markerFor_client (peer : Peer) : markerFor peer true = peer.kex.contains strictC := by simp [markerFor]

theorem markerFor_server (peer : Peer) : markerFor peer false = peer.kex.contains strictS := by simp [markerFor]

theorem both_iff (peer : Peer) (client : Bool) :
    both peer client = true ↔ (∃ c ∈ ciphersOf peer client, isCbc c = true) ∧ ∃ m ∈ macsOf peer client, isEtm m = true := by
  simp only [both, Bool.and_eq_true, Bool.not_eq_true', List.isEmpty_eq_false_iff_exists_mem, List.mem_filter]

theorem mem_Venc (peer : Peer) (client : Bool) (n : Str) :
    n ∈ Venc peer client ↔ n ∈ ciphersOf peer client ∧ (isChacha n = true ∨ (isCbc n = true ∧ ∃ m ∈ macsOf peer client, isEtm m = true)) := by
  unfold Venc
  rw [List.mem_append, List.mem_filter, List.mem_ite_nil_right, both_iff, List.mem_filter]
  constructor
  · rintro (⟨h1, h2⟩ | ⟨⟨_, hm⟩, h1, h2⟩)
    · exact ⟨h1, Or.inl h2⟩
    · exact ⟨h1, Or.inr ⟨h2, hm⟩⟩
  · rintro ⟨hin, hc | ⟨hcbc, hm⟩⟩
    · exact Or.inl ⟨hin, hc⟩
    · exact Or.inr ⟨⟨⟨n, hin, hcbc⟩, hm⟩, hin, hcbc⟩

theorem mem_Vmac (peer : Peer) (client : Bool) (n : Str) :
    n ∈ Vmac peer client ↔ n ∈ macsOf peer client ∧ isEtm n = true ∧ ∃ c ∈ ciphersOf peer client, isCbc c = true := by
  unfold Vmac
  rw [List.mem_ite_nil_right, both_iff, List.mem_filter]
  exact ⟨fun ⟨⟨hc, _⟩, hin, he⟩ => ⟨hin, he, hc⟩, fun ⟨hin, he, hc⟩ => ⟨⟨hc, n, hin, he⟩, hin, he⟩⟩

theorem slot1_postProcess (db : DB) (peer : Peer) (client : Bool) (bsw : Option Str) (rn : Str) (c n : Str) :
    (DBm.lookup (postProcess db peer client bsw rn).db c n).map (DBm.slot · 1) = (DBm.lookup db c n).map (DBm.slot · 1) :=
  lookup_postProcess_map (DBm.slot · 1)
    (fun e i k t hi => (slot_appendAt e i k t 1).trans (if_neg fun h => absurd (h.1 ▸ hi) (by decide))) db peer client bsw rn c n

/-- the database knows the name (as `output_algorithm` looks it up) and lists no failure for it -/
def Clean (db : DB) (c n : Str) : Prop := ∃ e, DBm.lookup db c (gssNormalize c n) = some e ∧ DBm.fails e = []

theorem clean_lines (rf : List Str) (db : DB) (peer : Peer) (client : Bool) (bsw : Option Str) (rn : Str) (c : Str) (ns : List Str)
    (h : ∀ n ∈ ns, Clean db c n) :
    ∀ l ∈ algLines rf (postProcess db peer client bsw rn).db c ns peer.hostKeys peer.dhSizes,
      l.unknown = false ∧ ∀ nt ∈ l.notes, nt.level ≠ .fail := by
  intro l hl
  obtain ⟨hn, _, _, ht⟩ := (mem_algLines _ _ _ _ _ _ l).mp hl
  obtain ⟨e, he, hf⟩ := h l.name hn
  have hs := slot1_postProcess db peer client bsw rn c (gssNormalize c l.name)
  rw [he] at hs
  obtain ⟨e', he', hs'⟩ := Option.map_eq_some_iff.mp hs
  obtain ⟨_, ⟨hnone, _⟩ | ⟨_, he'', hv⟩⟩ := algTexts_eq_some_iff.mp ht
  · rw [he'] at hnone; cases hnone
  · cases he'.symm.trans he''
    obtain ⟨h1, h2⟩ := Prod.mk.inj hv
    refine ⟨h2, fun nt hnt hl => ?_⟩
    -- a failure note of an entry is one of its failure texts
    have hr := rawTexts_at e' .fail
    rw [show (DBm.slot e' 1).filterMap id = DBm.fails e from congrArg (List.filterMap id) hs', hf, List.map_eq_nil_iff,
      List.filter_eq_nil_iff] at hr
    rw [h1, entryTexts] at hnt
    split at hnt
    · rw [List.mem_singleton.mp hnt] at hl; cases hl
    · exact hr nt hnt (by simpa using hl)

/-- the notes shown are those of the names' entries, and post-processing edits slots 2 and 3 only -/
theorem report_clean (rf : List Str) (db : DB) (peer : Peer) (client : Bool) (bsw : Option Str) (soft : Option Version.Software) (rn : Str)
    (hk : ∀ n ∈ peer.kex, Clean db kexC n) (hh : ∀ n ∈ peer.key, Clean db keyC n)
    (he : ∀ n ∈ peer.encS, Clean db encC n) (hm : ∀ n ∈ peer.macS, Clean db macC n) :
    let r := report rf db peer client bsw soft rn
    r.status ≠ 3 ∧ r.unknown = [] := by
  intro r
  have all : ∀ l ∈ r.kex ++ r.key ++ r.enc ++ r.mac, l.unknown = false ∧ ∀ nt ∈ l.notes, nt.level ≠ .fail := by
    simp only [List.forall_mem_append]
    exact ⟨⟨⟨clean_lines rf db peer client bsw rn _ _ hk, clean_lines rf db peer client bsw rn _ _ hh⟩,
      clean_lines rf db peer client bsw rn _ _ he⟩, clean_lines rf db peer client bsw rn _ _ hm⟩
  have hs : r.status = foldStatus 0 ((r.kex ++ r.key ++ r.enc ++ r.mac).flatMap (·.notes)) := by
    simp only [r, report, statusOfLines_eq, List.flatMap_append, foldStatus_append]
  refine ⟨fun h3 => ?_, List.filterMap_eq_nil_iff.mpr fun l hl => by rw [(all l hl).1]; rfl⟩
  obtain ⟨nt, hnt, hl⟩ := (foldStatus_iff _).1.mp (hs ▸ h3)
  obtain ⟨l, hl', hnt'⟩ := List.mem_flatMap.mp hnt
  exact (all l hl').2 nt hnt' hl

theorem recOf_some {sw : Version.Software} {unk : Bool} {cat : Str} {adv : List Str} {e : Entry} {r : Rec}
    (h : recOf sw unk cat adv e = some r) :
    versionOk sw unk e = true ∧
    ((e.name ∉ adv ∧ faults e = 0 ∧ addExcluded cat e.name = false ∧ emptyVersion e = false ∧ unk = false ∧
        r = { cat := cat, action := .add, name := e.name, points := 0 }) ∨
     (e.name ∈ adv ∧ faults e > 0 ∧
        r = { cat := cat, action := if chgList.contains e.name = true then .chg else .del, name := e.name, points := faults e })) := by
  revert h
  fun_cases recOf sw unk cat adv e with
  | case3 h1 h2 h3 =>
    -- not advertised and nothing against it: `add`
    rintro ⟨⟩
    simp only [not_or, Bool.not_eq_true] at h3
    exact ⟨by simpa using h1, Or.inl ⟨by simpa using h2, by omega, h3.2.1, h3.2.2.1, h3.2.2.2, rfl⟩⟩
  | case5 h1 h2 h3 h4 =>
    -- advertised with faults, on the change list: `chg`
    rintro ⟨⟩
    exact ⟨by simpa using h1, Or.inr ⟨by simpa using h2, by omega, by rw [if_pos h4]⟩⟩
  | case6 h1 h2 h3 h4 =>
    -- advertised with faults, not on the change list: `del`
    rintro ⟨⟩
    exact ⟨by simpa using h1, Or.inr ⟨by simpa using h2, by omega, by rw [if_neg h4]⟩⟩
  -- version filter fails; not advertised but not to be added; advertised without faults: `none`
  | _ => nofun

theorem recOf_del_chg (sw : Version.Software) (unk : Bool) (cat : Str) (adv : List Str) (e : Entry) (r : Rec)
    (h : recOf sw unk cat adv e = some r) (ha : r.action = .del ∨ r.action = .chg) :
    r.name = e.name ∧ r.cat = cat ∧ e.name ∈ adv ∧ faults e > 0 ∧ r.points = faults e ∧ (r.action = .chg ↔ chgList.contains e.name = true) := by
  obtain ⟨_, ⟨_, _, _, _, _, rfl⟩ | ⟨hm, hf, rfl⟩⟩ := recOf_some h
  · rcases ha with ha | ha <;> cases ha
  · refine ⟨rfl, rfl, hm, hf, rfl, ?_⟩
    show (if chgList.contains e.name = true then Action.chg else Action.del) = .chg ↔ _
    split
    · next hc => exact ⟨fun _ => hc, fun _ => rfl⟩
    · next hc => exact ⟨fun hx => Action.noConfusion hx, fun hx => absurd hx hc⟩

theorem recOf_add (sw : Version.Software) (unk : Bool) (cat : Str) (adv : List Str) (e : Entry) (r : Rec)
    (h : recOf sw unk cat adv e = some r) (ha : r.action = .add) :
    r.name = e.name ∧ r.cat = cat ∧ e.name ∉ adv ∧ faults e = 0 ∧ addExcluded cat e.name = false ∧ unk = false ∧ r.points = 0 ∧
      ∃ v0 rest, DBm.versions e = some v0 :: rest ∧ Version.versionFilter (some sw) unk true v0 = true := by
  obtain ⟨hv, ⟨hnm, hf, hex, hev, hunk, rfl⟩ | ⟨_, _, rfl⟩⟩ := recOf_some h
  · refine ⟨rfl, rfl, hnm, hf, hex, hunk, rfl, ?_⟩
    unfold emptyVersion at hev
    split at hev
    · cases hev
    · cases hev
    · next v0 rest hvs =>
      rw [versionOk, hvs] at hv
      exact ⟨v0, rest, hvs, hv⟩
  · change (if chgList.contains e.name = true then Action.chg else Action.del) = .add at ha
    split at ha <;> cases ha

theorem recOf_complete (sw : Version.Software) (unk : Bool) (cat : Str) (adv : List Str) (e : Entry)
    (hadv : e.name ∈ adv) (hf : faults e > 0) (hv : versionOk sw unk e = true) :
    ∃ r, recOf sw unk cat adv e = some r ∧ r.name = e.name ∧ (r.action = .del ∨ r.action = .chg) ∧ r.points = faults e := by
  unfold recOf
  rw [if_neg (by simp [hv])]
  have hc : ¬ (adv.contains e.name = false) := by simpa using hadv
  rw [if_neg hc, if_neg (by omega)]
  by_cases h4 : chgList.contains e.name = true
  · rw [if_pos h4]; exact ⟨_, rfl, rfl, Or.inr rfl, rfl⟩
  · rw [if_neg h4]; exact ⟨_, rfl, rfl, Or.inl rfl, rfl⟩

theorem recLevel_eq_two (r : Rec) : recLevel r = 2 ↔ r.points ≥ 10 := by
  fun_cases recLevel r with
  | case1 h => exact ⟨fun _ => h, fun _ => rfl⟩
  | case2 h _ => exact ⟨nofun, fun h' => absurd h' h⟩
  | case3 h _ => exact ⟨nofun, fun h' => absurd h' h⟩

/-- the three passes of `recsFor` (del, then add, then chg) together keep exactly what passes `q`; stated on their literal form because
    `mem_recsFor` meets them under a `flatMap` binder -/
theorem mem_picks (rs : List Rec) (q : Rec → Bool) (r : Rec) :
    r ∈ rs.filter (fun r => decide (r.action = .del) && q r) ++ rs.filter (fun r => decide (r.action = .add) && q r) ++
        rs.filter (fun r => decide (r.action = .chg) && q r) ↔ r ∈ rs ∧ q r = true := by
  simp only [List.mem_append, List.mem_filter, Bool.and_eq_true, decide_eq_true_eq]
  cases r.action <;> simp

theorem recs_shared (db : DB) (sw : Option Version.Software) (peer : Peer) (sup : List Str) :
    recommendations db sw peer sup =
      Ssh1Report.recsFor db sw [(kexC, peer.kex), (keyC, peer.key), (encC, peer.encS), (macC, peer.macS)] sup := by
  cases sw <;> rfl

theorem mem_recsFor {db : DB} {sw : Version.Software} {cats : List (Str × List Str)} {sup : List Str} {r : Rec} :
    r ∈ Ssh1Report.recsFor db (some sw) cats sup ↔
      ∃ ca ∈ cats, ∃ e ∈ DBm.cat db ca.1, recOf sw (!vproducts.contains sw.product) ca.1 ca.2 e = some r ∧ r.name ∉ sup := by
  unfold Ssh1Report.recsFor
  simp only [List.mem_flatMap]
  constructor
  · rintro ⟨⟨c, adv⟩, hc, hr⟩
    obtain ⟨hrs, hs⟩ := (mem_picks _ (fun r => !sup.contains r.name) r).mp hr
    obtain ⟨e, he, hre⟩ := List.mem_filterMap.mp hrs
    exact ⟨(c, adv), hc, e, he, hre, by simpa using hs⟩
  · rintro ⟨⟨c, adv⟩, hc, e, he, hre, hs⟩
    exact ⟨(c, adv), hc, (mem_picks _ (fun r => !sup.contains r.name) r).mpr ⟨List.mem_filterMap.mpr ⟨e, he, hre⟩, by simpa using hs⟩⟩

theorem maskFrom_eq (start mask : Nat) (i : Nat) (names : List Str) :
    maskFrom start mask i names = ((names.zipIdx i).filter (fun p => decide (p.2 ≥ start) && mask.testBit p.2)).map (·.1) := by
  fun_induction maskFrom start mask i names with
  | case1 => rfl
  | case2 i n ns h ih => rw [ih, List.zipIdx_cons, List.filter_cons, if_pos h, List.map_cons]
  | case3 i n ns h ih => rw [ih, List.zipIdx_cons, List.filter_cons, if_neg h]

theorem maskFrom_mem (start mask : Nat) (i : Nat) (names : List Str) (n : Str) :
    n ∈ maskFrom start mask i names ↔ ∃ j, start ≤ i + j ∧ mask.testBit (i + j) = true ∧ names[j]? = some n := by
  rw [maskFrom_eq]
  simp only [List.mem_map, List.mem_filter, List.mem_zipIdx_iff_le_and_getElem?_sub, Bool.and_eq_true, decide_eq_true_eq]
  constructor
  · rintro ⟨⟨m, k⟩, ⟨⟨hle, hget⟩, hs, hb⟩, rfl⟩
    obtain ⟨j, rfl⟩ := Nat.exists_eq_add_of_le hle
    exact ⟨j, hs, hb, by simpa using hget⟩
  · rintro ⟨j, hs, hb, hget⟩
    exact ⟨(n, i + j), ⟨⟨Nat.le_add_right i j, by simpa using hget⟩, hs, hb⟩, rfl⟩

theorem maskFrom_sublist_drop (start mask : Nat) (i : Nat) (names : List Str) :
    (maskFrom start mask i names).Sublist (names.drop (start - i)) := by
  fun_induction maskFrom start mask i names with
  | case1 => simp
  | case2 i n ns h ih =>
    have hi : start - i = 0 := Nat.sub_eq_zero_of_le (of_decide_eq_true (Bool.and_eq_true _ _ ▸ h).1)
    rw [Nat.sub_add_eq, hi] at ih
    rw [hi]
    exact ih.cons_cons n
  | case3 i n ns h ih =>
    rw [Nat.sub_add_eq] at ih
    cases hk : start - i with
    | zero => rw [hk] at ih; exact ih.cons n
    | succ k => rw [hk] at ih; exact ih

theorem maskFrom_sublist (start mask : Nat) (i : Nat) (names : List Str) : (maskFrom start mask i names).Sublist names :=
  (maskFrom_sublist_drop start mask i names).trans (List.drop_sublist _ _)

theorem mask_sublist_drop (names : List Str) (start mask : Nat) : (maskNames names start mask).Sublist (names.drop start) :=
  maskFrom_sublist_drop start mask 0 names

end SshAudit.Report
