/-
  `Model/Banner`: banner.py, `read_line`, `get_banner`.  The recogniser is read in both directions: forwards, a line made
  of protocol items and a remainder is accepted and its fields are read off the remainder; backwards, the groups of every
  match are `parseTail` of well-formed pairs and of a suffix of the line.  The stream part rests on `scan` in closed form.
-/
import SshAudit.Model.Banner
import SshAudit.Lemmas.Text
namespace SshAudit.Banner

/-! The vocabulary of the statements of `Props/C16` -/

@[reducible] def sshDash : Str := ['S', 'S', 'H', '-']

def WfPair (p : Pair) : Prop := p.1.isDigit = true ∧ p.2 ≠ [] ∧ ∀ x ∈ p.2, x.isDigit = true

def protoStr (p : Pair) : Str := 'S' :: 'S' :: 'H' :: '-' :: p.1 :: '.' :: p.2

def headOk : Str → Bool
  | [] => true
  | c :: _ => !isBlank c

def lastOk : Str → Bool
  | [] => true
  | [c] => !isBlank c
  | _ :: c' :: cs => lastOk (c' :: cs)

def noDouble : Str → Bool
  | c :: c' :: cs => !(isBlank c && isBlank c') && noDouble (c' :: cs)
  | _ => true

/-- the shape `normComments` gives its result -/
def normal (c : Str) : Bool := !c.isEmpty && headOk c && lastOk c && noDouble c

def chain : List Pair → Str → Str
  | [], rem => rem
  | p :: ps, rem => '-' :: (protoStr p ++ chain ps rem)

/-- whole lines on the wire: each followed by LF -/
def wire (ls : List Bytes) : Bytes := (ls.map (· ++ [0x0a])).flatten

/-- the header text of raw lines: the non-blank ones, decoded -/
def shown (raws : List Bytes) : List Str := (raws.map lineText).filter (fun t => !isBlankLine t)

/-- what `to_print_ascii` does to one character -/
def san (c : Char) : Char := if isPrint c then c else '?'

theorem toPrint_eq_map (s : Str) : toPrintAscii s = s.map san := by
  have hf : filterChar isPrintCode false = some ∘ san := by
    funext c
    by_cases h : isPrintCode c.toNat = true <;> simp [filterChar, san, isPrint, h]
  rw [toPrintAscii, toAsciiBy, hf, List.filterMap_eq_map]

theorem isPrintAscii_eq_all (s : Str) : isPrintAscii s = s.all isPrint := rfl

theorem isPrint_san (c : Char) : isPrint (san c) = true := by
  unfold san
  split
  · assumption
  · decide

theorem san_of_print {c : Char} (h : isPrint c = true) : san c = c := by simp [san, h]

theorem toPrint_append (a b : Str) : toPrintAscii (a ++ b) = toPrintAscii a ++ toPrintAscii b := by
  simp [toPrint_eq_map]

theorem toPrint_cons (c : Char) (s : Str) : toPrintAscii (c :: s) = san c :: toPrintAscii s := by
  simp [toPrint_eq_map]

theorem isPrintAscii_append (a b : Str) : isPrintAscii (a ++ b) = (isPrintAscii a && isPrintAscii b) := by
  simp [isPrintAscii_eq_all]

theorem isPrintAscii_cons (c : Char) (s : Str) : isPrintAscii (c :: s) = (isPrint c && isPrintAscii s) := by
  simp [isPrintAscii_eq_all]

theorem toPrint_of_print {s : Str} (h : isPrintAscii s = true) : toPrintAscii s = s := by
  rw [toPrint_eq_map]
  exact (List.map_congr_left fun c hc => san_of_print (List.all_eq_true.mp h c hc)).trans (List.map_id _)

theorem isPrintAscii_toPrint (s : Str) : isPrintAscii (toPrintAscii s) = true := by
  rw [toPrint_eq_map, isPrintAscii_eq_all, List.all_eq_true]
  intro x hx
  obtain ⟨c, _, rfl⟩ := List.mem_map.mp hx
  exact isPrint_san c

theorem toPrint_idem (s : Str) : toPrintAscii (toPrintAscii s) = toPrintAscii s :=
  toPrint_of_print (isPrintAscii_toPrint s)

theorem isDigit_isPrint (c : Char) (h : c.isDigit = true) : isPrint c = true := by
  have := Text.isDigit_toNat ((Text.isDigit_eq c).trans h)
  simp only [isPrint, isPrintCode, Bool.and_eq_true, decide_eq_true_eq]
  omega

theorem digits_print (m : Str) (h : ∀ x ∈ m, x.isDigit = true) : isPrintAscii m = true := by
  rw [isPrintAscii_eq_all, List.all_eq_true]
  exact fun x hx => isDigit_isPrint x (h x hx)

/-- Use this rather than `⟨_, _, _⟩` when `m` is a term such as `natToStr n`: checking a fact about
    `m` against `(d, m).2` makes the unifier unfold `m` before it reduces the projection. -/
theorem wfPair_mk {d : Char} {m : Str} (hd : d.isDigit = true) (hne : m ≠ []) (hm : ∀ x ∈ m, x.isDigit = true) :
    WfPair (d, m) :=
  ⟨hd, hne, hm⟩

theorem okRem_cases (rem : Str) (h : okRem rem = true) : rem = [] ∨ ∃ r, rem = '-' :: r := by
  cases rem with
  | nil => exact .inl rfl
  | cons c r => exact .inr ⟨r, by rw [beq_iff_eq.mp h]⟩

theorem digit_not_blank (c : Char) (h : c.isDigit = true) : isBlank c = false := by
  simpa [isBlank] using Text.isDigit_ne ((Text.isDigit_eq c).trans h) (by decide : Text.isDigit ' ' = false)

theorem matchProto_some (s : Str) (p : Pair) (r : Str) (h : matchProto s = some (p, r)) : WfPair p ∧ r <:+ s := by
  revert h
  fun_cases matchProto s with
  | case2 d r0 hd r1 ds hne =>
    intro h
    cases h
    exact ⟨⟨hd, by simpa using hne, List.all_eq_true.mp List.all_takeWhile⟩,
      ((List.dropWhile_suffix _).trans (List.dropWhile_suffix _)).trans ⟨['S', 'S', 'H', '-', d, '.'], rfl⟩⟩
  | _ => nofun

theorem matchProto_protoStr (p : Pair) (rem : Str) (hp : WfPair p) (hrem : okRem rem = true) :
    matchProto (protoStr p ++ rem) = some (p, rem) := by
  obtain ⟨d, m⟩ := p
  obtain ⟨hd, hne, hds⟩ := hp
  have hstop : ∀ a ∈ rem.head?, a.isDigit = false := by
    rcases okRem_cases rem hrem with rfl | ⟨r, rfl⟩
    · exact fun _ h => nomatch h
    · intro a ha; cases ha; rfl
  have hm : ∀ a ∈ (m ++ rem).head?, isBlank a = false := by
    cases m with
    | nil => exact absurd rfl hne
    | cons a m => intro x hx; cases hx; exact digit_not_blank a (hds a (by simp))
  have hnb : (m ++ rem).dropWhile isBlank = m ++ rem := Text.dropWhile_append_stop (l := []) (by simp) hm
  simp only [protoStr, List.cons_append, matchProto, hd, if_true, hnb,
    Text.takeWhile_append_stop hds hstop, Text.dropWhile_append_stop hds hstop]
  simp [hne]

theorem matchProto_not_prefix (s : Str) (h : sshDash.isPrefixOf s = false) : matchProto s = none := by
  unfold matchProto
  split
  · simp [List.isPrefixOf] at h
  · rfl

theorem prefix_of_append_blank (pat t u : Str) (hpat : ∀ x ∈ pat, isBlank x = false)
    (hu : ∀ c ∈ u.head?, isBlank c = true) (h : pat.isPrefixOf (t ++ u) = true) : pat.isPrefixOf t = true := by
  rw [List.isPrefixOf_iff_prefix] at h ⊢
  rcases List.prefix_or_prefix_of_prefix h (List.prefix_append t u) with h1 | ⟨v, rfl⟩
  · exact h1
  · -- `pat = t ++ v` with `v` a prefix of `u`: `v` is empty, since `u` begins with a blank and `pat` has none
    have hv := (List.prefix_append_right_inj t).mp h
    cases v with
    | nil => simp
    | cons a v =>
      obtain ⟨w, rfl⟩ := hv
      have := hpat a (by simp)
      rw [hu a rfl] at this
      cases this

theorem matchProto_token (t u : Str) (hu : ∀ c ∈ u.head?, isBlank c = true)
    (hts : sshDash.isPrefixOf t = false) : matchProto (t ++ u) = none := by
  apply matchProto_not_prefix
  cases hp : sshDash.isPrefixOf (t ++ u) with
  | false => rfl
  | true =>
    have := prefix_of_append_blank sshDash t u (by decide) hu hp
    rw [this] at hts
    exact absurd hts (by simp)

theorem eq_space_of_isBlank (c : Char) (h : isBlank c = true) : c = ' ' := by simpa [isBlank] using h

theorem isBlank_san (c : Char) : isBlank (san c) = isBlank c := by
  by_cases hp : isPrint c = true
  · rw [san_of_print hp]
  · -- `c` becomes `?`; neither is the blank, which is printable
    have hc : c ≠ ' ' := fun e => hp (e ▸ by decide)
    simp [san, hp, isBlank, hc]

theorem rstrip_cons (c : Char) (cs : Str) :
    rstrip (c :: cs) = if rstrip cs = [] then (if isBlank c then [] else [c]) else c :: rstrip cs := by
  rw [rstrip]
  cases hr : rstrip cs with
  | nil => rfl
  | cons a r => rfl

theorem rstrip_ne_nil (c : Char) (cs : Str) (h : isBlank c = false) : rstrip (c :: cs) ≠ [] := by
  rw [rstrip_cons]
  split <;> simp [h]

theorem rstrip_eq (s : Str) : rstrip s = Text.rstripBy isBlank s := by
  induction s with
  | nil => rfl
  | cons c cs ih => rw [rstrip_cons, ih, Text.rstripBy_cons]

theorem strip_eq (s : Str) : strip s = Text.stripBy isBlank s := by
  rw [strip, rstrip_eq]
  rfl

theorem lastOk_cons (c : Char) (x : Str) (hx : x ≠ []) : lastOk (c :: x) = lastOk x := by
  cases x with
  | nil => exact absurd rfl hx
  | cons a r => rfl

theorem lastOk_append (x y : Str) (hy : y ≠ []) : lastOk (x ++ y) = lastOk y := by
  induction x with
  | nil => rfl
  | cons c cs ih => rw [List.cons_append, lastOk_cons _ _ (by simp [hy]), ih]

theorem tight_iff (s : Str) : headOk s = true ∧ lastOk s = true ↔ Text.TightBy isBlank s := by
  have hlast : ∀ t c, lastOk (t ++ [c]) = !isBlank c := fun t c => lastOk_append t [c] (by simp)
  constructor
  · rintro ⟨h1, h2⟩
    refine ⟨fun c t e => ?_, fun t c e => ?_⟩
    · simpa [e, headOk] using h1
    · simpa [e, hlast] using h2
  · rintro ⟨h1, h2⟩
    constructor
    · cases s with
      | nil => rfl
      | cons c t => simp [headOk, h1 c t rfl]
    · rcases List.eq_nil_or_concat s with rfl | ⟨t, c, e⟩
      · rfl
      · rw [List.concat_eq_append] at e
        simp [e, hlast, h2 t c e]

/-- two blanks in a row: where `collapse` drops a character and `noDouble` fails -/
def dbl (c : Char) (t : Str) : Bool := isBlank c && t.head?.any isBlank

theorem collapse_cons (c : Char) (t : Str) : collapse (c :: t) = if dbl c t then collapse t else c :: collapse t := by
  cases hb : isBlank c
  · cases t <;> simp [collapse, dbl, hb]
  · cases eq_space_of_isBlank c hb
    cases t with
    | nil => rfl
    | cons a r => cases ha : isBlank a <;> simp [collapse, dbl, isBlank]

theorem noDouble_cons (c : Char) (t : Str) : noDouble (c :: t) = (!dbl c t && noDouble t) := by
  cases t <;> simp [noDouble, dbl]

theorem dbl_ne_nil {c : Char} {t : Str} (h : dbl c t = true) : t ≠ [] := by
  rintro rfl
  simp [dbl] at h

theorem collapse_cons_nonblank (c : Char) (cs : Str) (h : isBlank c = false) : collapse (c :: cs) = c :: collapse cs := by
  rw [collapse_cons, dbl, h]
  rfl

theorem collapse_ne_nil (y : Str) (h : y ≠ []) : collapse y ≠ [] := by
  induction y with
  | nil => exact h
  | cons c t ih =>
    rw [collapse_cons]
    split
    · next hd => exact ih (dbl_ne_nil hd)
    · exact List.cons_ne_nil _ _

theorem collapse_sublist (y : Str) : (collapse y).Sublist y := by
  induction y with
  | nil => exact .slnil
  | cons c t ih =>
    rw [collapse_cons]
    split
    · exact ih.cons c
    · exact ih.cons_cons c

theorem head?_collapse (y : Str) : (collapse y).head? = y.head? := by
  induction y with
  | nil => rfl
  | cons c t ih =>
    rw [collapse_cons]
    split
    · next hd =>
      -- `c` and the head of `t` are both blanks, hence equal
      cases t with
      | nil => exact absurd rfl (dbl_ne_nil hd)
      | cons a r =>
        simp only [dbl, List.head?_cons, Option.any_some, Bool.and_eq_true] at hd
        rw [ih, List.head?_cons, List.head?_cons, eq_space_of_isBlank c hd.1, eq_space_of_isBlank a hd.2]
    · rfl

theorem headOk_eq (s : Str) : headOk s = !s.head?.any isBlank := by
  cases s <;> rfl

theorem headOk_collapse (y : Str) (h : headOk y = true) : headOk (collapse y) = true := by
  rw [headOk_eq, head?_collapse, ← headOk_eq]
  exact h

theorem lastOk_collapse (y : Str) (h : lastOk y = true) : lastOk (collapse y) = true := by
  induction y with
  | nil => rfl
  | cons c t ih =>
    rw [collapse_cons]
    by_cases ht : t = []
    · subst ht
      simpa [dbl, collapse] using h
    · rw [lastOk_cons c t ht] at h
      split
      · exact ih h
      · rw [lastOk_cons _ _ (collapse_ne_nil t ht)]
        exact ih h

theorem noDouble_collapse (y : Str) : noDouble (collapse y) = true := by
  induction y with
  | nil => rfl
  | cons c t ih =>
    rw [collapse_cons]
    split
    · exact ih
    · next hd =>
      have : dbl c (collapse t) = dbl c t := by simp only [dbl, head?_collapse]
      simpa [noDouble_cons, this, ih] using hd

theorem collapse_of_noDouble (y : Str) (h : noDouble y = true) : collapse y = y := by
  induction y with
  | nil => rfl
  | cons c t ih =>
    simp only [noDouble_cons, Bool.and_eq_true, Bool.not_eq_true'] at h
    rw [collapse_cons, h.1, ih h.2]
    rfl

theorem collapse_append_nonblank (w y : Str) (hw : ∀ x ∈ w, isBlank x = false) : collapse (w ++ y) = w ++ collapse y := by
  induction w with
  | nil => rfl
  | cons c cs ih =>
    rw [List.cons_append, collapse_cons_nonblank c _ (hw c (by simp)), ih (fun x hx => hw x (by simp [hx]))]
    rfl

theorem collapse_blanks (k : Nat) (c : Char) (y : Str) (hc : isBlank c = false) :
    collapse (List.replicate (k + 1) ' ' ++ c :: y) = ' ' :: collapse (c :: y) := by
  induction k with
  | zero =>
    rw [List.replicate_one, List.singleton_append, collapse_cons]
    simp [dbl, hc]
  | succ k ih =>
    rw [List.replicate_succ, List.cons_append, collapse_cons, ih]
    simp [dbl, List.replicate_succ, isBlank]

theorem normal_iff (c : Str) : normal c = true ↔ c ≠ [] ∧ headOk c = true ∧ lastOk c = true ∧ noDouble c = true := by
  simp only [normal, Bool.and_eq_true, Bool.not_eq_true', List.isEmpty_eq_false_iff, and_assoc]

theorem normComments_some {x c : Str} (h : normComments x = some c) : strip x ≠ [] ∧ c = collapse (strip x) := by
  unfold normComments orNone at h
  split at h
  · simp at h
  · next hne => exact ⟨by simpa using hne, by simpa using h.symm⟩

theorem normComments_normal (x c : Str) (h : normComments x = some c) : normal c = true := by
  obtain ⟨hne, rfl⟩ := normComments_some h
  obtain ⟨hhead, hlast⟩ := (tight_iff (strip x)).mpr (strip_eq x ▸ Text.stripBy_tight isBlank x)
  exact (normal_iff _).mpr ⟨collapse_ne_nil _ hne, headOk_collapse _ hhead, lastOk_collapse _ hlast, noDouble_collapse _⟩

theorem normComments_of_normal (c : Str) (h : normal c = true) : normComments c = some c := by
  obtain ⟨hne, hhead, hlast, hdbl⟩ := (normal_iff c).mp h
  have hemp : c.isEmpty = false := by simpa using hne
  rw [normComments, strip_eq, Text.stripBy_of_tight ((tight_iff c).mp ⟨hhead, hlast⟩), orNone, hemp]
  exact congrArg some (collapse_of_noDouble c hdbl)

theorem normComments_dropWhile (c : Str) : normComments (c.dropWhile isBlank) = normComments c := by
  rw [normComments, normComments, strip_eq, strip_eq, Text.stripBy_dropWhile]

theorem mem_of_mem_normComments (x c : Str) (h : normComments x = some c) : ∀ a ∈ c, a ∈ x := by
  obtain ⟨_, rfl⟩ := normComments_some h
  obtain ⟨pre, post, _, _, _, hx⟩ := Text.stripBy_decomp isBlank x
  intro a ha
  rw [hx, ← strip_eq]
  exact List.mem_append_left _ (List.mem_append_right _ ((collapse_sublist _).subset ha))

theorem normComments_nil : normComments [] = none := rfl

theorem normComments_cons_blank (x : Str) : normComments (' ' :: x) = normComments x := by
  rw [← normComments_dropWhile, ← normComments_dropWhile x]
  rfl

theorem softwareOf_dash (r tok : Str) (h : ∀ x ∈ tok, isBlank x = false) :
    softwareOf (some ('-' :: r)) (some tok) = some tok := by
  cases tok with
  | nil => rfl
  | cons a t => simp [softwareOf, strip_eq, Text.stripBy_of_tight (.of_forall h), orNone]

theorem ofGroups_parseTail_nil (pairs : List Pair) (v : Bool) :
    ofGroups (parseTail pairs []) v
      = { protocol := protocolOf pairs, software := none, comments := none, validAscii := v } :=
  rfl

/-- groups 3 and 4 of `-\s*([^\s]*)(?:\s+(.*))?` as `parse` reads them -/
theorem ofGroups_parseTail_dash (pairs : List Pair) (r : Str) (v : Bool) :
    ofGroups (parseTail pairs ('-' :: r)) v
      = { protocol := protocolOf pairs
          software := some ((r.dropWhile isBlank).takeWhile (fun x => !isBlank x))
          comments := normComments ((r.dropWhile isBlank).dropWhile (fun x => !isBlank x))
          validAscii := v } := by
  have hsw := softwareOf_dash r ((r.dropWhile isBlank).takeWhile (fun x => !isBlank x))
    (fun x hx => by simpa using List.all_eq_true.mp List.all_takeWhile x hx)
  simp only [parseTail]
  split
  · next h => simp only [ofGroups, h, hsw]; rfl
  · simp only [ofGroups, hsw, Option.getD_some, normComments_dropWhile]

theorem ofGroups_parseTail_token (pairs : List Pair) (t c : Str) (v : Bool) (ht : ∀ x ∈ t, isBlank x = false)
    (hne : t ≠ []) (hc : ∀ a ∈ c.head?, isBlank a = true) :
    ofGroups (parseTail pairs ('-' :: t ++ c)) v
      = { protocol := protocolOf pairs, software := some t, comments := normComments c, validAscii := v } := by
  have hd : (t ++ c).dropWhile isBlank = t ++ c := by
    cases t with
    | nil => exact absurd rfl hne
    | cons a t => exact List.dropWhile_cons_of_neg (by simp [ht a])
  have ht' : ∀ x ∈ t, (!isBlank x) = true := fun x hx => by simp [ht x hx]
  have hc' : ∀ a ∈ c.head?, (!isBlank a) = false := fun a ha => by simp [hc a ha]
  rw [List.cons_append, ofGroups_parseTail_dash, hd, Text.takeWhile_append_stop ht' hc', Text.dropWhile_append_stop ht' hc']

theorem softwareOf_empty (r : Str) : softwareOf (some ('-' :: r)) (some []) = some [] :=
  softwareOf_dash r [] (fun _ h => nomatch h)

theorem protoStr_print (p : Pair) (hp : WfPair p) : isPrintAscii (protoStr p) = true := by
  obtain ⟨hd, _, hds⟩ := hp
  have h1 := isDigit_isPrint _ hd
  have h2 := digits_print _ hds
  simp only [protoStr, isPrintAscii_cons, h1, h2]
  decide

theorem intOfDigits_natToStr (n : Nat) : intOfDigits (Text.natToStr n) = n :=
  Text.ofDigitChars_natToStr n

theorem natToStr_isDigit (n : Nat) : ∀ x ∈ Text.natToStr n, x.isDigit = true :=
  fun x hx => Text.isDigit_eq x ▸ Text.natToStr_digits n x hx

theorem wfPair_nat (D M : Nat) (h : D < 10) : WfPair (D.digitChar, Text.natToStr M) :=
  wfPair_mk (Nat.isDigit_digitChar.trans (decide_eq_true h)) (Text.natToStr_ne_nil M) (natToStr_isDigit M)

/-- about variables: with `natToStr M` for `m` the check by `rfl` would unfold it -/
theorem protocolOf_single (d : Char) (m : Str) : protocolOf [(d, m)] = (d.toNat - 48, intOfDigits m) := rfl

theorem protocolOf_nat (D M : Nat) (h : D < 10) : protocolOf [(D.digitChar, Text.natToStr M)] = (D, M) := by
  rw [protocolOf_single, intOfDigits_natToStr, Nat.toNat_digitChar_sub_48_of_lt_ten h]

/-- every repetition with the text that follows it -/
def annotate : List Pair → Str → List (Pair × Str)
  | [], _ => []
  | p :: ps, rem => (p, chain ps rem) :: annotate ps rem

theorem okRem_chain (ps : List Pair) (rem : Str) (h : okRem rem = true) : okRem (chain ps rem) = true := by
  cases ps with
  | nil => exact h
  | cons p ps => rfl

theorem length_le_chain (ps : List Pair) (rem : Str) : ps.length ≤ (chain ps rem).length := by
  induction ps with
  | nil => simp
  | cons p ps ih => simp only [chain, List.length_cons, List.length_append]; omega

theorem matchMore_chain (ps : List Pair) (rem : Str) (n : Nat) (hn : ps.length ≤ n) (hps : ∀ q ∈ ps, WfPair q)
    (hrem : okRem rem = true) (hstop : ∀ r, rem = '-' :: r → matchProto r = none) :
    matchMore n (chain ps rem) = annotate ps rem := by
  induction ps generalizing n with
  | nil =>
    rcases okRem_cases rem hrem with rfl | ⟨r, rfl⟩
    · cases n <;> rfl
    · cases n with
      | zero => rfl
      | succ n => simp [matchMore, chain, annotate, hstop r rfl]
  | cons p ps ih =>
    cases n with
    | zero => simp at hn
    | succ n =>
      have hm := matchProto_protoStr p (chain ps rem) (hps p (by simp)) (okRem_chain ps rem hrem)
      simp only [chain, annotate, matchMore, hm]
      rw [ih n (by simpa using hn) (fun q hq => hps q (by simp [hq]))]

theorem annotate_fst (ps : List Pair) (rem : Str) : (annotate ps rem).map Prod.fst = ps := by
  induction ps with
  | nil => rfl
  | cons p ps ih => simp [annotate, ih]

theorem annotate_last (p : Pair) (ps : List Pair) (rem : Str) :
    ∃ q e, ((p, chain ps rem) :: annotate ps rem).reverse = (q, rem) :: e := by
  induction ps generalizing p with
  | nil => exact ⟨p, [], rfl⟩
  | cons p' ps ih =>
    obtain ⟨q, e, h⟩ := ih p'
    refine ⟨q, e ++ [(p, chain (p' :: ps) rem)], ?_⟩
    simp only [annotate, List.reverse_cons] at h ⊢
    rw [h]; rfl

theorem rxBanner_chain (p : Pair) (ps : List Pair) (rem : Str) (hp : ∀ q ∈ p :: ps, WfPair q) (hrem : okRem rem = true)
    (hstop : ∀ r, rem = '-' :: r → matchProto r = none) :
    rxBanner (protoStr p ++ chain ps rem) = some (parseTail (p :: ps) rem) := by
  unfold rxBanner
  rw [matchProto_protoStr p _ (hp p (by simp)) (okRem_chain ps rem hrem)]
  simp only
  rw [matchMore_chain ps rem _ (length_le_chain ps rem) (fun q hq => hp q (by simp [hq])) hrem hstop]
  -- the reversed list starts with the entry whose remainder is `rem`, and `okRem rem` holds: `pick` keeps every repetition
  obtain ⟨q, e, h⟩ := annotate_last p ps rem
  rw [h]
  simp only [pick, hrem, if_true]
  rw [← h]
  simp [annotate_fst]

theorem toPrint_chain (ps : List Pair) (rem : Str) (hps : ∀ q ∈ ps, WfPair q) :
    toPrintAscii (chain ps rem) = chain ps (toPrintAscii rem) := by
  induction ps with
  | nil => rfl
  | cons p ps ih =>
    have hd : san '-' = '-' := by decide
    rw [chain, toPrint_cons, toPrint_append, toPrint_of_print (protoStr_print p (hps p (by simp))), hd,
      ih (fun q hq => hps q (by simp [hq]))]
    rfl

theorem isPrintAscii_chain (ps : List Pair) (rem : Str) (hps : ∀ q ∈ ps, WfPair q) :
    isPrintAscii (chain ps rem) = isPrintAscii rem := by
  induction ps with
  | nil => rfl
  | cons p ps ih =>
    have hd : isPrint '-' = true := by decide
    rw [chain, isPrintAscii_cons, isPrintAscii_append, protoStr_print p (hps p (by simp)), hd,
      ih (fun q hq => hps q (by simp [hq]))]
    rfl

theorem parse_chain (p : Pair) (ps : List Pair) (rem : Str) (hp : ∀ q ∈ p :: ps, WfPair q)
    (hrem : okRem (toPrintAscii rem) = true) (hstop : ∀ r, toPrintAscii rem = '-' :: r → matchProto r = none) :
    parse (protoStr p ++ chain ps rem)
      = some (ofGroups (parseTail (p :: ps) (toPrintAscii rem)) (isPrintAscii rem)) := by
  have hpp := protoStr_print p (hp p (by simp))
  have hps : ∀ q ∈ ps, WfPair q := fun q hq => hp q (by simp [hq])
  unfold parse
  simp only [toPrint_append, toPrint_of_print hpp, isPrintAscii_append, hpp, Bool.true_and, toPrint_chain ps rem hps,
    isPrintAscii_chain ps rem hps]
  rw [rxBanner_chain p ps _ hp hrem hstop]

/-- `parse` of one item followed by a remainder at which the repetition `(?:-P)*` stops -/
theorem parse_one (p : Pair) (rem : Str) (hp : WfPair p)
    (hrem : okRem (toPrintAscii rem) = true) (hstop : ∀ r, toPrintAscii rem = '-' :: r → matchProto r = none) :
    parse (protoStr p ++ rem) = some (ofGroups (parseTail [p] (toPrintAscii rem)) (isPrintAscii rem)) :=
  parse_chain p [] rem (List.forall_mem_singleton.mpr hp) hrem hstop

theorem matchMore_mem (n : Nat) (s : Str) : ∀ e ∈ matchMore n s, WfPair e.1 ∧ e.2 <:+ s := by
  induction n generalizing s with
  | zero => simp [matchMore]
  | succ n ih =>
    intro e he
    unfold matchMore at he
    split at he
    · next r =>
      split at he
      · next p r' hm =>
        obtain ⟨hw, hsuf⟩ := matchProto_some r p r' hm
        have hsuf' := hsuf.trans (List.suffix_cons '-' r)
        rcases List.mem_cons.mp he with rfl | h
        · exact ⟨hw, hsuf'⟩
        · exact ⟨(ih r' e h).1, (ih r' e h).2.trans hsuf'⟩
      · cases he
    · cases he

/-- `P`: any invariant of the entries -/
theorem pick_some {P : Pair × Str → Prop} {l : List (Pair × Str)} {pairs : List Pair} {rem : Str} (hl : ∀ e ∈ l, P e)
    (h : pick l = some (pairs, rem)) : okRem rem = true ∧ pairs ≠ [] ∧ (∃ q, P (q, rem)) ∧ ∀ q ∈ pairs, ∃ r, P (q, r) := by
  revert h
  fun_induction pick l with
  | case1 => nofun
  | case2 p r earlier hok =>
    intro h
    cases h
    refine ⟨hok, by simp, ⟨p, hl _ (by simp)⟩, fun q hq => ?_⟩
    obtain ⟨e, he, rfl⟩ := List.mem_map.mp hq
    exact ⟨e.2, hl e (List.mem_reverse.mp he)⟩
  | case3 p r earlier hok ih => exact ih (fun e he => hl e (List.mem_cons_of_mem _ he))

theorem rxBanner_some (s : Str) (g : Groups) (h : rxBanner s = some g) :
    ∃ pairs rem, g = parseTail pairs rem ∧ okRem rem = true ∧ rem <:+ s ∧ pairs ≠ [] ∧ ∀ q ∈ pairs, WfPair q := by
  revert h
  fun_cases rxBanner s with
  | case3 p r hm pairs rem hpick =>
    intro h
    cases h
    obtain ⟨hw, hsuf⟩ := matchProto_some s p r hm
    have hall : ∀ e ∈ ((p, r) :: matchMore r.length r).reverse, WfPair e.1 ∧ e.2 <:+ s := by
      intro e he
      rcases List.mem_cons.mp (List.mem_reverse.mp he) with rfl | he
      · exact ⟨hw, hsuf⟩
      · exact ⟨(matchMore_mem _ _ e he).1, (matchMore_mem _ _ e he).2.trans hsuf⟩
    obtain ⟨hok, hne, ⟨_, _, hrem⟩, hpairs⟩ := pick_some hall hpick
    exact ⟨pairs, rem, rfl, hok, hrem, hne, fun q hq => (hpairs q hq).elim fun _ h => h.1⟩
  | _ => nofun

theorem minPair_mem (p : Pair) (ps : List Pair) : minPair p ps ∈ p :: ps := by
  fun_induction minPair p ps with
  | case1 best => exact List.mem_singleton.mpr rfl
  | case2 best q qs ih =>
    rcases List.mem_cons.mp ih with h | h
    · rw [h]
      split <;> simp
    · simp [h]

theorem protocolOf_major (pairs : List Pair) (hne : pairs ≠ []) (hw : ∀ q ∈ pairs, WfPair q) :
    (protocolOf pairs).1 < 10 := by
  cases pairs with
  | nil => exact absurd rfl hne
  | cons p ps =>
    have hm := minPair_mem p ps
    have := Text.isDigit_toNat ((Text.isDigit_eq _).trans (hw _ hm).1)
    simp only [protocolOf]
    have h48 : '0'.toNat = 48 := by decide
    omega

theorem ltPair_iff (a b : Pair) : ltPair a b = true ↔ a.1 < b.1 ∨ a.1 = b.1 ∧ a.2 < b.2 := by
  unfold ltPair
  split
  · next h => simp [h, Text.ltStr_iff, Char.lt_irrefl]
  · next h => simp [h]

theorem ltPair_irrefl (a : Pair) : ltPair a a = false := by
  simp [ltPair, Bool.eq_false_iff, Text.ltStr_iff, List.lt_irrefl]

theorem ltPair_trans (a b c : Pair) (h1 : ltPair a b = true) (h2 : ltPair b c = true) : ltPair a c = true := by
  rw [ltPair_iff] at *
  rcases h1 with h1 | ⟨e1, h1⟩
  · rcases h2 with h2 | ⟨e2, _⟩
    · exact Or.inl (Char.lt_trans h1 h2)
    · exact Or.inl (e2 ▸ h1)
  · rcases h2 with h2 | ⟨e2, h2⟩
    · exact Or.inl (e1 ▸ h2)
    · exact Or.inr ⟨e1.trans e2, List.lt_trans h1 h2⟩

/-- the running minimum only goes down -/
theorem minPair_not_lt (q best : Pair) (ps : List Pair) (h : ltPair q best = false) : ltPair q (minPair best ps) = false := by
  induction ps generalizing best with
  | nil => exact h
  | cons x xs ih =>
    apply ih
    split
    · next hx =>
      cases hq : ltPair q x with
      | false => rfl
      | true => rw [ltPair_trans q x best hq hx] at h; exact h
    · exact h

theorem minPair_le (p : Pair) (ps : List Pair) : ∀ q ∈ p :: ps, ltPair q (minPair p ps) = false := by
  induction ps generalizing p with
  | nil => simp [minPair, ltPair_irrefl]
  | cons x xs ih =>
    intro q hq
    rcases List.mem_cons.mp hq with rfl | hq
    · exact minPair_not_lt _ _ _ (ltPair_irrefl _)
    · rw [minPair]
      rcases List.mem_cons.mp hq with rfl | hq
      · apply minPair_not_lt
        split
        · exact ltPair_irrefl _
        · next hx => simpa using hx
      · exact ih _ q (List.mem_cons_of_mem _ hq)
theorem splitLines_line (r rest : Bytes) (h : (0x0a : UInt8) ∉ r) :
    splitLines (r ++ 0x0a :: rest) = (r ++ [0x0a]) :: splitLines rest := by
  induction r with
  | nil => simp [splitLines]
  | cons b r ih =>
    obtain ⟨hb, hr⟩ := not_or.mp (mt List.mem_cons.mpr h)
    simp only [List.cons_append, splitLines, Ne.symm hb, if_false]
    rw [ih hr]

theorem flatten_splitLines (b : Bytes) : (splitLines b).flatten = b := by
  fun_induction splitLines b with
  | case1 => rfl
  | case2 cs ih => simp [ih]
  | case3 c cs hc hnil ih => rw [hnil] at ih; simp [← ih]
  | case4 c cs hc l ls hcons ih => rw [hcons] at ih; simp [← ih]

theorem rstripBytes_cons (c : UInt8) (cs : Bytes) :
    rstripBytes (c :: cs) = if rstripBytes cs = [] then (if isSpaceByte c then [] else [c]) else c :: rstripBytes cs := by
  rw [rstripBytes]
  cases hr : rstripBytes cs with
  | nil => rfl
  | cons a r => rfl

theorem rstripBytes_eq (s : Bytes) : rstripBytes s = Text.rstripBy isSpaceByte s := by
  induction s with
  | nil => rfl
  | cons c cs ih => rw [rstripBytes_cons, ih, Text.rstripBy_cons]

theorem lineText_append_spaces (r : Bytes) {w : Bytes} (hw : ∀ x ∈ w, isSpaceByte x = true) : lineText (r ++ w) = lineText r := by
  rw [lineText, lineText, rstripBytes_eq, rstripBytes_eq, Text.rstripBy_append_right r hw]

theorem lineText_lf (r : Bytes) : lineText (r ++ [0x0a]) = lineText r :=
  lineText_append_spaces r (by decide)

/-- LF and CR LF endings give the same line text -/
theorem lineText_crlf (r : Bytes) : lineText (r ++ [0x0d, 0x0a]) = lineText r :=
  lineText_append_spaces r (by decide)

theorem splitLines_wire (ls : List Bytes) (tail : Bytes) (h : ∀ r ∈ ls, (0x0a : UInt8) ∉ r) :
    splitLines (wire ls ++ tail) = ls.map (· ++ [0x0a]) ++ splitLines tail := by
  induction ls with
  | nil => simp [wire]
  | cons r ls ih =>
    have : wire (r :: ls) ++ tail = r ++ 0x0a :: (wire ls ++ tail) := by simp [wire]
    rw [this, splitLines_line r _ (h r (by simp)), ih (fun x hx => h x (by simp [hx]))]
    simp

theorem wire_ne_nil (ls : List Bytes) (h : ls ≠ []) : (wire ls).isEmpty = false := by
  cases ls with
  | nil => exact absurd rfl h
  | cons r ls => cases r <;> simp [wire]

theorem shown_append (a b : List Bytes) : shown (a ++ b) = shown a ++ shown b := by
  simp [shown]

theorem shown_lf (ls : List Bytes) : shown (ls.map (· ++ [0x0a])) = shown ls := by
  simp [shown, List.map_map, Function.comp_def, lineText_lf]

/-- the lines `scan` passes over -/
def passed (raw : Bytes) : Bool := isBlankLine (lineText raw) || (parse (lineText raw)).isNone

theorem scan_eq (h0 : List Str) (raws : List Bytes) :
    scan h0 raws = match raws.dropWhile passed with
      | [] => (none, h0 ++ shown (raws.takeWhile passed), [])
      | r :: more => (parse (lineText r), h0 ++ shown (raws.takeWhile passed), more) := by
  fun_induction scan h0 raws with
  | case1 h0 => simp [shown]
  | case2 h0 raw more line hb ih => simp [passed, line, hb, ih, shown]
  | case3 h0 raw more line hb b hp => simp [passed, line, hb, hp, shown]
  | case4 h0 raw more line hb hp ih => simp [passed, line, hb, hp, ih, shown]

theorem scan_pass (h0 : List Str) (raws more : List Bytes) (hnb : ∀ r ∈ raws, parse (lineText r) = none) :
    scan h0 (raws ++ more) = scan (h0 ++ shown raws) more := by
  have hp : ∀ r ∈ raws, passed r = true := fun r hr => by simp [passed, hnb r hr]
  rw [scan_eq, scan_eq (h0 ++ shown raws), List.dropWhile_append_of_pos hp, List.takeWhile_append_of_pos hp, shown_append,
    List.append_assoc]

theorem scan_append (h0 : List Str) (a c : List Bytes) :
    scan h0 (a ++ c) = match scan h0 a with
      | (some b, h, rest) => (some b, h, rest ++ c)
      | (none, h, _) => scan h c := by
  fun_induction scan h0 a with
  | case1 h0 => rfl
  | case2 h0 raw more line hb ih => simp only [List.cons_append, scan, line, hb, if_true, ih]
  | case3 h0 raw more line hb b hp => simp only [List.cons_append, scan, line, hb, hp, Bool.false_eq_true, if_false]
  | case4 h0 raw more line hb hp ih => simp only [List.cons_append, scan, line, hb, hp, ih, Bool.false_eq_true, if_false]

theorem scan_header (h0 : List Str) (raws : List Bytes) :
    ∀ t ∈ (scan h0 raws).2.1, t ∈ h0 ∨ (parse t = none ∧ isBlankLine t = false) := by
  fun_induction scan h0 raws with
  | case1 h0 => exact fun t ht => .inl ht
  | case2 h0 raw more line hb ih => exact ih
  | case3 h0 raw more line hb b hp => exact fun t ht => .inl ht
  | case4 h0 raw more line hb hp ih =>
    intro t ht
    rcases ih t ht with h | h
    · rcases List.mem_append.mp h with h | h
      · exact .inl h
      · rw [List.mem_singleton.mp h]
        exact .inr ⟨hp, by simpa using hb⟩
    · exact .inr h

theorem scan_banner (h0 : List Str) (raws : List Bytes) (b : Banner) (h : (scan h0 raws).1 = some b) :
    ∃ raw ∈ raws, parse (lineText raw) = some b := by
  rw [scan_eq] at h
  split at h
  · cases h
  · next r more hd => exact ⟨r, (List.dropWhile_sublist _).subset (hd ▸ List.mem_cons_self), h⟩

theorem splitLines_append (x r : Bytes) :
    splitLines (x ++ r) = (cutLines x).1 ++ splitLines ((cutLines x).2 ++ r) := by
  fun_induction cutLines x with
  | case1 => rfl
  | case2 cs ih => simp [splitLines, ih]
  | case3 c cs hc hnil ih => simp [splitLines, hc, ih, hnil]
  | case4 c cs hc l ls hcons ih => simp [splitLines, hc, ih, hcons]

theorem splitLines_nolf (l : Bytes) (hne : l ≠ []) (h : (0x0a : UInt8) ∉ l) : splitLines l = [l] := by
  induction l with
  | nil => exact absurd rfl hne
  | cons b l ih =>
    have hb : b ≠ 0x0a := by intro hb; apply h; simp [hb]
    have hl : (0x0a : UInt8) ∉ l := by intro hl; apply h; simp [hl]
    simp only [splitLines, hb, if_false]
    cases l with
    | nil => simp [splitLines]
    | cons c l' => rw [ih (by simp) hl]

/-- the step `get_banner` makes at each `recv` -/
theorem finish_append (h0 : List Str) (x r : Bytes) :
    finish h0 (x ++ r) [] = match scan h0 (cutLines x).1 with
      | (some b, h, rest) =>
        { banner := some b, header := h, unread := rest.flatten ++ ((cutLines x).2 ++ r), pending := [] }
      | (none, h, _) => finish h ((cutLines x).2 ++ r) [] := by
  unfold finish
  rw [splitLines_append, scan_append]
  rcases scan h0 (cutLines x).1 with ⟨_ | b, h, rest⟩
  · rfl
  · simp [flatten_splitLines]

theorem finish_wire (h0 : List Str) (hs : List Bytes) (tail : Bytes)
    (hhs : ∀ r ∈ hs, (0x0a : UInt8) ∉ r ∧ parse (lineText r) = none) :
    finish h0 (wire hs ++ tail) [] = finish (h0 ++ shown hs) tail [] := by
  have hnb : ∀ r ∈ hs.map (· ++ [0x0a]), parse (lineText r) = none := by
    intro r hr
    obtain ⟨x, hx, rfl⟩ := List.mem_map.mp hr
    rw [lineText_lf]
    exact (hhs x hx).2
  unfold finish
  rw [splitLines_wire hs _ (fun r hr => (hhs r hr).1), scan_pass h0 _ _ hnb, shown_lf]

theorem pending_suffix (cs : List Bytes) (h0 : List Str) (buf : Bytes) : (getBanner h0 buf cs).pending <:+ cs := by
  fun_induction getBanner h0 buf cs with
  | case1 => exact List.suffix_refl _                     -- no `recv` result left
  | case4 _ _ c cs _ _ _ _ ih =>                          -- no banner among the complete lines: the recursive call
    exact ih.trans (List.suffix_cons c cs)
  | _ => exact List.suffix_cons _ _                       -- an empty `recv` result, or the banner found: the rest is pending

end SshAudit.Banner
