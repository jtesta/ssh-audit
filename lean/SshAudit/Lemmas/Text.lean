/-
  Facts about lists and about the text primitives of `Model/Text.lean` that core does not state.  Two ideas carry the file: the models'
  own text functions are core's (`ltStr` is `<` on `List Char`, `natToStr` is `Nat.toDigits 10`, `hasSub` is `<:+:`), so that core's
  lemmas apply; and `strip()` is treated once, for an arbitrary test of what counts as white space.
-/
import SshAudit.Model.Text
namespace SshAudit
namespace Text

section
variable {α β γ : Type _}

theorem inj_of_nodup_map {f : α → β} {l : List α} (h : (l.map f).Nodup) {a b : α} (ha : a ∈ l) (hb : b ∈ l)
    (e : f a = f b) : a = b :=
  have hp : l.Pairwise (fun a b => f a = f b → a = b) := (List.pairwise_map.mp h).imp fun hne e => absurd e hne
  hp.forall_of_forall_of_flip (fun _ _ _ => rfl) (hp.imp fun hab e => (hab e.symm).symm) ha hb e

theorem map_inj_of_mem {f : α → β} : ∀ {l l' : List α}, (∀ a ∈ l, ∀ b, f a = f b → a = b) → l.map f = l'.map f → l = l'
  | [], [], _, _ => rfl
  | [], _ :: _, _, h => nomatch h
  | _ :: _, [], _, h => nomatch h
  | a :: l, b :: l', hf, h => by
    simp only [List.map_cons, List.cons.injEq] at h
    rw [hf a (by simp) b h.1, map_inj_of_mem (fun x hx => hf x (List.mem_cons_of_mem _ hx)) h.2]

theorem find?_map_comm (p : α → Bool) (g : α → α) (hg : ∀ x, p (g x) = p x) (l : List α) :
    (l.map g).find? p = (l.find? p).map g := by
  rw [List.find?_map, show p ∘ g = p from funext hg]

theorem filter_append_not {p : α → Bool} {x : α} (h : p x = false) (l : List α) : (l ++ [x]).filter p = l.filter p := by
  simp [List.filter_append, h]

theorem filter_partition_length (p : α → Bool) (l : List α) : (l.filter p).length + (l.filter (fun x => !p x)).length = l.length := by
  induction l with
  | nil => rfl
  | cons x rest ih => cases hx : p x <;> simp [hx] <;> omega

theorem filterMap_ite (p : α → Prop) [DecidablePred p] (f : α → β) (l : List α) :
    l.filterMap (fun a => if p a then some (f a) else none) = (l.filter (fun a => decide (p a))).map f := by
  induction l with
  | nil => rfl
  | cons x xs ih => by_cases h : p x <;> simp [h, ih]

theorem map_fst_filterMap (l : List α) (g : α → Option β) (f : β → γ) :
    (l.filterMap (fun k => (g k).map (fun v => (k, f v)))).map (·.1) = l.filter (fun k => (g k).isSome) := by
  induction l with
  | nil => rfl
  | cons x xs ih => cases hg : g x <;> simp [hg, ih]

theorem flatMap_rel (R : List β → List β → Prop) (hnil : R [] [])
    (happ : ∀ a b c d, R a b → R c d → R (a ++ c) (b ++ d)) (f g : α → List β) (l : List α)
    (h : ∀ a ∈ l, R (f a) (g a)) : R (l.flatMap f) (l.flatMap g) := by
  induction l with
  | nil => exact hnil
  | cons a rest ih =>
    rw [List.flatMap_cons, List.flatMap_cons]
    exact happ _ _ _ _ (h a (by simp)) (ih fun b hb => h b (by simp [hb]))

theorem flatMap_eq (f g : α → List β) (l : List α) (h : ∀ a ∈ l, f a = g a) : l.flatMap f = l.flatMap g :=
  flatMap_rel Eq rfl (fun _ _ _ _ h₁ h₂ => h₁ ▸ h₂ ▸ rfl) f g l h

theorem exists_mem_flatMap (l : List α) (f : α → List β) (p : β → Prop) : (∃ b ∈ l.flatMap f, p b) ↔ ∃ a ∈ l, ∃ b ∈ f a, p b := by
  simp only [List.mem_flatMap]
  exact ⟨fun ⟨b, ⟨a, ha, hb⟩, hp⟩ => ⟨a, ha, b, hb, hp⟩, fun ⟨a, ha, b, hb, hp⟩ => ⟨b, ⟨a, ha, hb⟩, hp⟩⟩

theorem any_congr_mem (p : α → Bool) {l₁ l₂ : List α} (h : ∀ a, a ∈ l₁ ↔ a ∈ l₂) : l₁.any p = l₂.any p := by
  rw [Bool.eq_iff_iff, List.any_eq_true, List.any_eq_true]
  exact exists_congr fun a => and_congr_left fun _ => h a

theorem all_iff_forall {ks : List α} {ok : α → Bool} (h : ∀ t ∉ ks, ok t = true) : ks.all ok = true ↔ ∀ t, ok t = true := by
  rw [List.all_eq_true]
  exact ⟨fun hall t => Classical.byCases (hall t) (h t), fun hp t _ => hp t⟩

theorem forall_mem_ite (b : Prop) [Decidable b] (l : List α) (p : α → Prop) :
    (∀ x ∈ (if b then l else []), p x) ↔ (b → ∀ x ∈ l, p x) := by
  split <;> simp [*]

theorem ite_append (c : Prop) [Decidable c] (r x : List α) : (if c then r ++ x else r) = r ++ (if c then x else []) := by
  split
  · rfl
  · exact (List.append_nil r).symm

theorem nil_of_head (P : α → Prop) {a b : List α} {x : α} {rest : List α} (ha : ∀ y ∈ a, ¬ P y)
    (h : a ++ b = x :: rest) (hx : P x) : a = [] := by
  cases a with
  | nil => rfl
  | cons y ys =>
    injection h with h1 _
    exact absurd (h1 ▸ hx) (ha y List.mem_cons_self)

theorem contains_false_iff [BEq α] [LawfulBEq α] (l : List α) (n : α) : l.contains n = false ↔ n ∉ l := by
  rw [← List.contains_iff_mem, Bool.not_eq_true]

theorem getD_map_range (f : Nat → α) (d : α) {n i : Nat} (h : i < n) : ((List.range n).map f).getD i d = f i := by
  rw [List.getD_eq_getElem?_getD, List.getElem?_map, List.getElem?_range h]
  rfl

/-- `[]` twice: `DBm.slot` and `Report.appendAt` read the slots of a description with default `[]` -/
theorem getD_append_replicate_nil (d : List (List α)) (m j : Nat) : (d ++ List.replicate m []).getD j [] = d.getD j [] := by
  simp only [List.getD_eq_getElem?_getD, List.getElem?_append, List.getElem?_replicate]
  split
  · rfl
  · next h => rw [List.getElem?_eq_none (Nat.le_of_not_lt h)]; split <;> rfl

theorem drop_take_append {c R : List α} {n : Nat} (hc : c.length = n) (m : Nat) : ((c ++ R).take m).drop n = R.take (m - n) := by
  rw [List.drop_take, List.drop_append, List.drop_of_length_le (Nat.le_of_eq hc), hc, Nat.sub_self, List.nil_append, List.drop_zero]

theorem isPrefixOf_cons_ne [BEq α] [LawfulBEq α] {x d : α} (h : d ≠ x) (xs rest : List α) : (x :: xs).isPrefixOf (d :: rest) = false := by
  have : (x == d) = false := by simp [Ne.symm h]
  simp [List.isPrefixOf, this]

theorem mapM_map_some {f : α → β} {g : β → Option γ} {k : α → γ} (h : ∀ x, g (f x) = some (k x)) (l : List α) :
    (l.map f).mapM g = some (l.map k) := by
  induction l with
  | nil => rfl
  | cons x xs ih => simp [List.mapM_cons, h, ih]

theorem perm_foldr_insert {ins : α → List α → List α} (h : ∀ x l, (ins x l).Perm (x :: l)) (l : List α) : (l.foldr ins []).Perm l := by
  induction l with
  | nil => exact .refl _
  | cons x xs ih => exact (h x _).trans (.cons x ih)

end

section
variable {α : Type _} {p : α → Bool}

theorem takeWhile_of_all {l : List α} (h : ∀ x ∈ l, p x = true) : l.takeWhile p = l := by
  simpa using List.takeWhile_append_of_pos (l₂ := []) h

theorem dropWhile_of_all {l : List α} (h : ∀ x ∈ l, p x = true) : l.dropWhile p = [] := by
  simpa using List.dropWhile_append_of_pos (l₂ := []) h

theorem takeWhile_append_stop {l r : List α} (h : ∀ x ∈ l, p x = true) (hr : ∀ a ∈ r.head?, p a = false) :
    (l ++ r).takeWhile p = l := by
  rw [List.takeWhile_append_of_pos h]
  cases r with
  | nil => simp
  | cons a r => rw [List.takeWhile_cons_of_neg (by simp [hr a rfl]), List.append_nil]

theorem dropWhile_append_stop {l r : List α} (h : ∀ x ∈ l, p x = true) (hr : ∀ a ∈ r.head?, p a = false) :
    (l ++ r).dropWhile p = r := by
  rw [List.dropWhile_append_of_pos h]
  cases r with
  | nil => rfl
  | cons a r => exact List.dropWhile_cons_of_neg (by simp [hr a rfl])

theorem dropWhile_head_false {l : List α} {c : α} {t : List α} (h : l.dropWhile p = c :: t) : p c = false := by
  have := List.head?_dropWhile_not p l
  simpa [h] using this

theorem dropWhile_append_cons {c : α} (hc : p c = false) (k v : List α) :
    (k ++ c :: v).dropWhile p = k.dropWhile p ++ c :: v := by
  rw [List.dropWhile_append]
  split
  · next h => rw [List.isEmpty_iff.1 h, List.dropWhile_cons_of_neg (by simp [hc])]; rfl
  · rfl

end

/-! `strip()` for an arbitrary test `p` of what counts as white space.  `Text.stripU`, `Text.strip`, `Target.pyStrip`, `Target.intStrip`
and `Version.pyStrip` are `stripBy` of their test by `rfl`; `Banner.rstrip` and `Banner.rstripBytes` are `rstripBy` of theirs by
an induction (`Banner.rstrip_eq`, `Banner.rstripBytes_eq`), and `Banner.strip` follows (`Banner.strip_eq`).  `p` is explicit in a law exactly when no hypothesis of the law mentions it. -/

section
variable {α : Type _} {p : α → Bool}

/-- `s.rstrip()` -/
def rstripBy (p : α → Bool) (s : List α) : List α := (s.reverse.dropWhile p).reverse

/-- `s.strip()` -/
def stripBy (p : α → Bool) (s : List α) : List α := rstripBy p (s.dropWhile p)

/-- what `strip()` returns -/
def TightBy (p : α → Bool) (m : List α) : Prop := (∀ c t, m = c :: t → p c = false) ∧ (∀ t c, m = t ++ [c] → p c = false)

theorem stripU_eq : stripU = stripBy isUSpace := rfl

theorem strip_eq : strip = stripBy isSpace := rfl

theorem TightBy.of_forall {t : List α} (h : ∀ x ∈ t, p x = false) : TightBy p t :=
  ⟨fun c r e => h c (by simp [e]), fun r c e => h c (by simp [e])⟩

theorem rstripBy_decomp (p : α → Bool) (l : List α) : ∃ b, (∀ c ∈ b, p c = true) ∧ l = rstripBy p l ++ b := by
  refine ⟨(l.reverse.takeWhile p).reverse, fun c hc => List.all_eq_true.mp List.all_takeWhile c (List.mem_reverse.1 hc), ?_⟩
  rw [rstripBy, ← List.reverse_append, List.takeWhile_append_dropWhile, List.reverse_reverse]

theorem rstripBy_cons (p : α → Bool) (c : α) (cs : List α) :
    rstripBy p (c :: cs) = if rstripBy p cs = [] then (if p c then [] else [c]) else c :: rstripBy p cs := by
  simp only [rstripBy, List.reverse_cons, List.dropWhile_append, List.reverse_eq_nil_iff, List.isEmpty_iff]
  split
  · cases hb : p c <;> simp [hb]
  · simp

theorem rstripBy_append_right (l : List α) {b : List α} (hb : ∀ x ∈ b, p x = true) : rstripBy p (l ++ b) = rstripBy p l := by
  rw [rstripBy, List.reverse_append, List.dropWhile_append_of_pos (fun x hx => hb x (List.mem_reverse.1 hx))]
  rfl

theorem stripBy_of_all {l : List α} (h : ∀ c ∈ l, p c = true) : stripBy p l = [] := by
  rw [stripBy, dropWhile_of_all h]; rfl

theorem stripBy_sandwich {a m b : List α} (ha : ∀ c ∈ a, p c = true) (hb : ∀ c ∈ b, p c = true) (hm : TightBy p m) :
    stripBy p (a ++ m ++ b) = m := by
  cases m with
  | nil => exact stripBy_of_all (List.forall_mem_append.2 ⟨by simpa using ha, hb⟩)
  | cons c t =>
    have hlast : ∀ x ∈ (c :: t).reverse.head?, p x = false := by
      intro x hx
      rw [List.head?_reverse] at hx
      obtain ⟨r, e⟩ := List.getLast?_eq_some_iff.1 hx
      exact hm.2 r x e
    unfold stripBy rstripBy
    rw [List.append_assoc, dropWhile_append_stop ha (by simp [hm.1 c t rfl]), List.reverse_append,
      dropWhile_append_stop (fun x hx => hb x (List.mem_reverse.1 hx)) hlast, List.reverse_reverse]

theorem stripBy_of_tight {m : List α} (h : TightBy p m) : stripBy p m = m := by
  simpa using stripBy_sandwich (a := []) (b := []) (by simp) (by simp) h

theorem stripBy_tight (p : α → Bool) (l : List α) : TightBy p (stripBy p l) := by
  obtain ⟨b, -, h⟩ := rstripBy_decomp p (l.dropWhile p)
  refine ⟨fun c t e => ?_, fun t c e => ?_⟩
  · rw [← stripBy, e] at h
    exact dropWhile_head_false h
  · have := congrArg List.reverse e
    rw [stripBy, rstripBy, List.reverse_reverse, List.reverse_append] at this
    exact dropWhile_head_false this

theorem stripBy_decomp (p : α → Bool) (l : List α) :
    ∃ a b, (∀ c ∈ a, p c = true) ∧ (∀ c ∈ b, p c = true) ∧ TightBy p (stripBy p l) ∧ l = a ++ stripBy p l ++ b := by
  obtain ⟨b, hb, h⟩ := rstripBy_decomp p (l.dropWhile p)
  refine ⟨l.takeWhile p, b, List.all_eq_true.mp List.all_takeWhile, hb, stripBy_tight p l, ?_⟩
  rw [List.append_assoc, stripBy, ← h, List.takeWhile_append_dropWhile]

theorem stripBy_idem (p : α → Bool) (l : List α) : stripBy p (stripBy p l) = stripBy p l :=
  stripBy_of_tight (stripBy_tight p l)

theorem stripBy_append_left {a : List α} (ha : ∀ c ∈ a, p c = true) (l : List α) : stripBy p (a ++ l) = stripBy p l := by
  rw [stripBy, List.dropWhile_append_of_pos ha]; rfl

theorem stripBy_append_right (l : List α) {b : List α} (hb : ∀ c ∈ b, p c = true) : stripBy p (l ++ b) = stripBy p l := by
  obtain ⟨a', b', ha', hb', ht, hl⟩ := stripBy_decomp p l
  have : a' ++ stripBy p l ++ (b' ++ b) = l ++ b := by rw [← List.append_assoc, ← hl]
  rw [← this]
  exact stripBy_sandwich ha' (List.forall_mem_append.2 ⟨hb', hb⟩) ht

theorem stripBy_dropWhile (p : α → Bool) (l : List α) : stripBy p (l.dropWhile p) = stripBy p l := by
  conv => rhs; rw [← List.takeWhile_append_dropWhile (p := p) (l := l)]
  exact (stripBy_append_left (List.all_eq_true.mp List.all_takeWhile) _).symm

theorem stripBy_rstripBy (p : α → Bool) (l : List α) : stripBy p (rstripBy p l) = stripBy p l := by
  obtain ⟨b, hb, h⟩ := rstripBy_decomp p l
  conv => rhs; rw [h]
  exact (stripBy_append_right _ hb).symm

theorem rstripBy_append_cons {c : α} (hc : p c = false) (k v : List α) : rstripBy p (k ++ c :: v) = k ++ c :: rstripBy p v := by
  unfold rstripBy
  rw [List.reverse_append, List.reverse_cons, List.append_assoc, List.singleton_append, dropWhile_append_cons hc]
  simp

theorem stripBy_append_cons {c : α} (hc : p c = false) (k v : List α) :
    stripBy p (k ++ c :: v) = k.dropWhile p ++ c :: rstripBy p v := by
  rw [stripBy, dropWhile_append_cons hc, rstripBy_append_cons hc]

theorem stripBy_isEmpty (p : α → Bool) (t : List α) : (stripBy p t).isEmpty = t.all p := by
  obtain ⟨a, b, ha, hb, -, h⟩ := stripBy_decomp p t
  rw [Bool.eq_iff_iff, List.isEmpty_iff, List.all_eq_true]
  refine ⟨fun he x hx => ?_, stripBy_of_all⟩
  rw [h, he, List.append_nil] at hx
  exact (List.mem_append.mp hx).elim (ha x) (hb x)

end

theorem splitOn_ne_nil (c : Char) (s : Str) : splitOn c s ≠ [] := by
  fun_cases splitOn c s <;> exact List.cons_ne_nil _ _

theorem splitOn_append_left (c : Char) {a : Str} (h : c ∉ a) {l p : Str} {ps : List Str} (hl : splitOn c l = p :: ps) :
    splitOn c (a ++ l) = (a ++ p) :: ps := by
  induction a with
  | nil => exact hl
  | cons x xs ih =>
    have hx : x ≠ c := fun e => h (by simp [e])
    have hxs : c ∉ xs := fun e => h (by simp [e])
    simp [splitOn, hx, ih hxs]

theorem splitOn_of_not_mem (c : Char) {s : Str} (h : c ∉ s) : splitOn c s = [s] := by
  simpa using splitOn_append_left c h (l := []) rfl

theorem splitOn_append_sep (c : Char) {p : Str} (h : c ∉ p) (rest : Str) : splitOn c (p ++ c :: rest) = p :: splitOn c rest := by
  simpa using splitOn_append_left c h (l := c :: rest) (p := []) (ps := splitOn c rest) (by simp [splitOn])

theorem join_cons_append (sep a y : Str) (ys : List Str) : join sep ((a ++ y) :: ys) = a ++ join sep (y :: ys) := by
  cases ys <;> simp [join]

theorem splitOn_join_pad (c : Char) {pad : Str} (hp : c ∉ pad) {x : Str} {xs : List Str} (hx : c ∉ x) (hxs : ∀ y ∈ xs, c ∉ y) :
    splitOn c (join (c :: pad) (x :: xs)) = x :: xs.map (pad ++ ·) := by
  induction xs generalizing x with
  | nil => simp [join, splitOn_of_not_mem c hx]
  | cons y ys ih =>
    have hy : c ∉ pad ++ y := fun h => (List.mem_append.mp h).elim hp (hxs y (by simp))
    rw [join, List.append_assoc, List.cons_append, splitOn_append_sep c hx, ← join_cons_append,
      ih hy (fun z hz => hxs z (List.mem_cons_of_mem _ hz)), List.map_cons]
    simp

theorem splitOn_join (c : Char) {ps : List Str} (hne : ps ≠ []) (h : ∀ p ∈ ps, c ∉ p) : splitOn c (join [c] ps) = ps := by
  cases ps with
  | nil => exact absurd rfl hne
  | cons p ps =>
    simpa using splitOn_join_pad c (pad := []) (by simp) (h p (by simp)) (fun y hy => h y (List.mem_cons_of_mem _ hy))

theorem join_splitOn (c : Char) (s : Str) : join [c] (splitOn c s) = s := by
  fun_induction splitOn c s with
  | case1 => rfl
  | case2 xs ih =>
    obtain ⟨q, qs, hs⟩ := List.exists_cons_of_ne_nil (splitOn_ne_nil c xs)
    rw [hs] at ih ⊢
    rw [← ih]
    rfl
  | case3 x xs h hs ih => exact absurd hs (splitOn_ne_nil c xs)
  | case4 x xs h p ps hs ih => exact (join_cons_append [c] [x] p ps).trans (congrArg _ (hs ▸ ih))

theorem mem_join {sep : Str} {ps : List Str} {c : Char} (h : c ∈ join sep ps) : c ∈ sep ∨ ∃ p ∈ ps, c ∈ p := by
  induction ps with
  | nil => cases h
  | cons p ps ih =>
    cases ps with
    | nil => exact .inr ⟨p, by simp, h⟩
    | cons q qs =>
      simp only [join, List.mem_append] at h
      rcases h with (h | h) | h
      · exact .inr ⟨p, by simp, h⟩
      · exact .inl h
      · rcases ih h with h | ⟨r, hr, hc⟩
        · exact .inl h
        · exact .inr ⟨r, List.mem_cons_of_mem _ hr, hc⟩

theorem mem_splitOn_cover (sep : Char) (s : Str) (c : Char) (hc : c ∈ s) : c = sep ∨ ∃ p ∈ splitOn sep s, c ∈ p := by
  rw [← join_splitOn sep s] at hc
  simpa using mem_join hc

theorem splitOn_length (c : Char) (s : Str) : (splitOn c s).length = s.count c + 1 := by
  fun_induction splitOn c s with
  | case1 => rfl
  | case2 xs ih => simp [ih]
  | case3 x xs h hs ih => simp [hs] at ih
  | case4 x xs h p ps hs ih =>
    simp [hs] at ih
    simp [h, ← ih]

theorem join_length_ge (sep : Str) (l : List Str) (h : ∀ x ∈ l, 1 ≤ x.length) : l.length ≤ (join sep l).length := by
  fun_induction join sep l with
  | case1 => exact Nat.le_refl _
  | case2 x => exact h x (by simp)
  | case3 x ps _ ih =>
    have := ih fun z hz => h z (List.mem_cons_of_mem _ hz)
    have := h x (by simp)
    simp only [List.length_append, List.length_cons] at *
    omega

theorem map_splitOn_append_left {β : Type _} {f : Str → β} {c : Char} {a : Str} (hc : c ∉ a) (hf : ∀ p, f (a ++ p) = f p) (l : Str) :
    (splitOn c (a ++ l)).map f = (splitOn c l).map f := by
  obtain ⟨p, ps, hp⟩ := List.exists_cons_of_ne_nil (splitOn_ne_nil c l)
  rw [splitOn_append_left c hc hp, hp, List.map_cons, List.map_cons, hf]

/-- `f` is quantified after `hc`: the recursion calls itself with `fun p => f (x :: p)` -/
theorem map_splitOn_append_right {β : Type _} {c : Char} {b : Str} (hc : c ∉ b) :
    ∀ {f : Str → β}, (∀ p, f (p ++ b) = f p) → ∀ l : Str, (splitOn c (l ++ b)).map f = (splitOn c l).map f
  | f, hf, [] => by rw [List.nil_append, splitOn_of_not_mem c hc, splitOn]; simpa using hf []
  | f, hf, x :: xs => by
    have ih := map_splitOn_append_right hc hf xs
    have ih' := map_splitOn_append_right hc (f := fun p => f (x :: p)) (fun p => hf (x :: p)) xs
    obtain ⟨q, qs, hq⟩ := List.exists_cons_of_ne_nil (splitOn_ne_nil c (xs ++ b))
    obtain ⟨p, ps, hp⟩ := List.exists_cons_of_ne_nil (splitOn_ne_nil c xs)
    rw [hq, hp] at ih ih'
    simp only [List.map_cons, List.cons.injEq] at ih ih'
    by_cases hx : x = c
    · simp [splitOn, hx, hq, hp, ih.1, ih.2]
    · simp [splitOn, hx, hq, hp, ih'.1, ih.2]

theorem rindex_last (c : Char) (a : Str) {b : Str} (h : c ∉ b) : rindex c (a ++ c :: b) = some a.length := by
  have hb : b.reverse.findIdx? (· = c) = none := by
    rw [List.findIdx?_eq_none_iff]
    intro x hx
    simpa using fun e : x = c => h (e ▸ List.mem_reverse.mp hx)
  rw [rindex, List.reverse_append, List.reverse_cons, List.append_assoc, List.findIdx?_append, hb]
  simp [List.findIdx?_cons]

theorem hasSub_iff_infix (a : Str) : ∀ b : Str, hasSub a b = true ↔ a <:+: b
  | [] => by simp [hasSub]
  | x :: xs => by
    simp only [hasSub, Bool.or_eq_true, List.isPrefixOf_iff_prefix, hasSub_iff_infix a xs, List.infix_cons_iff]

theorem startsWith_nil (d : Str) : startsWith d [] = true := by
  simp [startsWith]

theorem startsWith_cons (d p : Str) (c : Char) :
    startsWith d (c :: p) = (match d with | [] => false | x :: xs => x == c && startsWith xs p) := by
  cases d <;> simp [startsWith, List.isPrefixOf, Bool.beq_comm]

theorem endsWith_singleton (d : Str) (c : Char) : endsWith d [c] = (d.getLast? == some c) := by
  unfold endsWith
  rw [List.getLast?_eq_head?_reverse]
  cases d.reverse with
  | nil => simp
  | cons x xs => simp [List.isPrefixOf, Bool.beq_comm]

theorem ltStr_iff (a b : Str) : ltStr a b = true ↔ a < b := by
  fun_induction ltStr a b with
  | case1 => simp
  | case2 => simp
  | case3 => simp
  | case4 a as b bs h => simp [List.cons_lt_cons_iff, h]
  | case5 a as b bs h1 h2 =>
    have : a ≠ b := by rintro rfl; exact h1 h2
    simp [List.cons_lt_cons_iff, h1, this]
  | case6 a as b bs h1 h2 ih =>
    rw [ih, List.cons_lt_cons_iff]
    simp [Char.le_antisymm (Char.not_lt.mp h2) (Char.not_lt.mp h1)]

theorem nodup_of_pairwise_lt {α : Type _} {f : α → Str} {l : List α} (h : (l.map f).Pairwise (· < ·)) : l.Nodup :=
  (List.pairwise_map.mp h).imp (fun {a b} hab e => by subst e; exact List.lt_irrefl _ hab)

theorem eq_of_perm_of_sorted {α : Type _} {f : α → Str} {l₁ l₂ : List α} (hp : l₁.Perm l₂) (h₁ : (l₁.map f).Pairwise (· < ·))
    (h₂ : (l₂.map f).Pairwise (· < ·)) : l₁ = l₂ :=
  List.Perm.eq_of_pairwise (le := fun a b => f a < f b) (fun _ _ _ _ h1 h2 => absurd h2 (List.lt_asymm h1))
    (List.pairwise_map.mp h₁) (List.pairwise_map.mp h₂) hp

theorem isDigit_eq (c : Char) : isDigit c = c.isDigit := by
  simp [isDigit, Char.isDigit, Char.le_def]

theorem natToStr_eq (n : Nat) : natToStr n = Nat.toDigits 10 n := Nat.toList_repr

theorem natToStr_digits (n : Nat) : ∀ x ∈ natToStr n, isDigit x = true := by
  intro x hx
  rw [natToStr_eq] at hx
  rw [isDigit_eq]
  exact Nat.isDigit_of_mem_toDigits (by decide) (by decide) hx

theorem natToStr_ne_nil (n : Nat) : natToStr n ≠ [] := by
  rw [natToStr_eq]; exact Nat.toDigits_ne_nil

theorem natToStr_lt_ten {n : Nat} (h : n < 10) : natToStr n = [n.digitChar] := by
  rw [natToStr_eq, Nat.toDigits_of_lt_base h]

theorem isDigit_toNat {c : Char} (h : isDigit c = true) : 48 ≤ c.toNat ∧ c.toNat ≤ 57 := by
  rw [isDigit_eq] at h
  simp only [Char.isDigit, Bool.and_eq_true, decide_eq_true_eq] at h
  exact ⟨UInt32.le_iff_toNat_le.mp h.1, UInt32.le_iff_toNat_le.mp h.2⟩

theorem isDigit_ne {d x : Char} (hd : isDigit d = true) (hx : isDigit x = false) : d ≠ x := by
  intro e; subst e; rw [hd] at hx; exact absurd hx (by simp)

/-- the fold of `Text.parseNat?` and `Target.decVal` -/
theorem foldl_digits_eq (d : Str) : d.foldl (fun a c => a * 10 + (c.toNat - '0'.toNat)) 0 = Nat.ofDigitChars 10 d 0 := by
  have : (fun a (c : Char) => a * 10 + (c.toNat - '0'.toNat)) = (fun a (c : Char) => 10 * a + (c.toNat - '0'.toNat)) := by
    funext a c; rw [Nat.mul_comm]
  simp only [Nat.ofDigitChars, this]

theorem parseNat?_eq {s : Str} (hne : s ≠ []) (h : ∀ c ∈ s, isDigit c = true) : parseNat? s = some (Nat.ofDigitChars 10 s 0) := by
  rw [parseNat?, List.isEmpty_eq_false_iff.2 hne, List.all_eq_true.2 h, ← foldl_digits_eq]
  rfl

theorem ofDigitChars_natToStr (n : Nat) : Nat.ofDigitChars 10 (natToStr n) 0 = n := by
  rw [natToStr_eq, Nat.ofDigitChars_ten_toDigits]

theorem toDigits_head (n : Nat) (h : 0 < n) : ∃ d ds, Nat.toDigits 10 n = d :: ds ∧ d ≠ '0' := by
  induction n using Nat.strongRecOn with
  | _ n ih =>
    by_cases hn : n < 10
    · exact ⟨n.digitChar, [], Nat.toDigits_of_lt_base hn, fun e => Nat.ne_of_gt h (Nat.digitChar_eq_zero.mp e)⟩
    · have hn := Nat.le_of_not_lt hn
      obtain ⟨d, ds, e, hd⟩ := ih (n / 10) (Nat.div_lt_self h (by decide)) (Nat.div_pos hn (by decide))
      exact ⟨d, ds ++ [Nat.digitChar (n % 10)], by rw [Nat.toDigits_of_base_le (by decide) hn, e]; rfl, hd⟩

theorem natToStr_shape (n : Nat) : ∃ d ds, natToStr n = d :: ds ∧ (d = '0' → ds = []) := by
  rw [natToStr_eq]
  cases n with
  | zero => exact ⟨'0', [], Nat.toDigits_zero 10, fun _ => rfl⟩
  | succ n =>
    obtain ⟨d, ds, e, hd⟩ := toDigits_head (n + 1) (Nat.succ_pos n)
    exact ⟨d, ds, e, fun h0 => absurd h0 hd⟩

theorem natToStr_head_digit (n : Nat) : ∃ d ds, natToStr n = d :: ds ∧ isDigit d = true := by
  obtain ⟨d, ds, e, _⟩ := natToStr_shape n
  exact ⟨d, ds, e, natToStr_digits n d (by rw [e]; simp)⟩

/-! `(l.find? (·.1 = k)).map (·.2)` is what `HostKey.dictGet`, `Pol.lookup` and `Val.get` on an object unfold to. -/

section
variable {κ α : Type _} [DecidableEq κ] {l : List (κ × α)} {k : κ} {v : α}

theorem assoc_eq_none_iff : (l.find? (·.1 = k)).map (·.2) = none ↔ k ∉ l.map (·.1) := by
  simp only [Option.map_eq_none_iff, List.find?_eq_none, decide_eq_true_eq, List.mem_map, not_exists, not_and]

theorem assoc_eq_some_iff (hnd : (l.map (·.1)).Nodup) : (l.find? (·.1 = k)).map (·.2) = some v ↔ (k, v) ∈ l := by
  constructor
  · intro h
    obtain ⟨x, hx, rfl⟩ := Option.map_eq_some_iff.mp h
    have hk : x.1 = k := by simpa using List.find?_some hx
    exact hk ▸ List.mem_of_find?_eq_some hx
  · intro h
    -- the entry found has key `k`, and no other entry has
    obtain ⟨x, hx⟩ : ∃ x, l.find? (·.1 = k) = some x := Option.isSome_iff_exists.mp (List.find?_isSome.mpr ⟨(k, v), h, by simp⟩)
    have hk : x.1 = k := by simpa using List.find?_some hx
    rw [hx, inj_of_nodup_map hnd (List.mem_of_find?_eq_some hx) h hk]
    rfl

end

/-! Two things are dear in the kernel.  It decodes a literal `"…".toList` in time quadratic in its length; but it also presents the
  literal as `String.ofList [chars]`, and rewriting with the theorem `String.toList_ofList` decodes it in linear time.  `decode_literals`
  does that, before a `decide +kernel` on a goal that shows its texts as literals (literals inside the definitions being evaluated are
  out of its reach).  And `Nodup` on `List Char` names compares character by character through `Decidable` instances and builds proof
  terms; `nodupN` on the numbers `nameCode` gives the names compares `Nat` literals, natively, in a Boolean function.  Soundness asks
  nothing of `nameCode` (equal names have equal numbers); it is meant to be injective (base `2 ^ 21`, above every code point, digits
  shifted by one), since only then does the test succeed on every list of distinct names. -/

macro "decode_literals" : tactic => `(tactic| repeat rw [String.toList_ofList])

def nameCode (t : Str) : Nat := t.foldl (fun a c => a * 2097152 + c.toNat + 1) 0

def nodupN : List Nat → Bool
  | [] => true
  | x :: xs => xs.all (fun y => !Nat.beq x y) && nodupN xs

theorem nodupN_spec : ∀ l : List Nat, nodupN l = true → l.Nodup
  | [], _ => List.nodup_nil
  | x :: xs, h => by
    simp only [nodupN, Bool.and_eq_true, List.all_eq_true, Bool.not_eq_true'] at h
    exact List.nodup_cons.mpr ⟨fun hm => Nat.ne_of_beq_eq_false (h.1 x hm) rfl, nodupN_spec xs h.2⟩

theorem nodup_of_codes {α : Type} (f : α → Str) {l : List α} (h : nodupN (l.map (fun a => nameCode (f a))) = true) : (l.map f).Nodup := by
  have := nodupN_spec _ h
  rw [show (fun a => nameCode (f a)) = nameCode ∘ f from rfl, ← List.map_map] at this
  exact List.Pairwise.of_map nameCode (fun _ _ hne he => hne (congrArg nameCode he)) this

end Text
end SshAudit
