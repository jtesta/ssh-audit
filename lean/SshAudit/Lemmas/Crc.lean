/- The CRC-32 of SSH-1: the bit step is GF(2)-linear, a table entry is eight bit steps of its index, the table-driven update is eight bit steps. -/
import SshAudit.Model.Wire
import SshAudit.Lemmas.Text
namespace SshAudit.Wire

theorem crcBitStep_xor (a b : Nat) : crcBitStep (a ^^^ b) = crcBitStep a ^^^ crcBitStep b := by
  unfold crcBitStep
  rw [Nat.shiftRight_xor_distrib, show (2 : Nat) = 2 ^ 1 from rfl, Nat.xor_mod_two_pow, Nat.pow_one]
  -- four parities; in each, the polynomial occurs an even number of times on one side
  rcases Nat.mod_two_eq_zero_or_one a with ha | ha
  · rcases Nat.mod_two_eq_zero_or_one b with hb | hb
    · simp only [ha, hb, Nat.xor_self, Nat.zero_ne_one, if_false, Nat.xor_zero]
    · simp only [ha, hb, Nat.zero_xor, Nat.zero_ne_one, if_true, if_false, Nat.xor_zero]
      ac_rfl
  · rcases Nat.mod_two_eq_zero_or_one b with hb | hb
    · simp only [ha, hb, Nat.xor_zero, Nat.zero_ne_one, if_true, if_false]
      ac_rfl
    · simp only [ha, hb, Nat.xor_self, Nat.zero_ne_one, if_true, if_false, Nat.xor_zero]
      rw [show a >>> 1 ^^^ crcPoly ^^^ (b >>> 1 ^^^ crcPoly) = a >>> 1 ^^^ b >>> 1 ^^^ (crcPoly ^^^ crcPoly) by ac_rfl, Nat.xor_self, Nat.xor_zero]

theorem stepN_xor (n a b : Nat) : crcBitStepN n (a ^^^ b) = crcBitStepN n a ^^^ crcBitStepN n b := by
  induction n generalizing a b with
  | zero => rfl
  | succ n ih => simp only [crcBitStepN, crcBitStep_xor, ih]

/-- on a register whose low `k` bits are clear, `k` bit steps only shift -/
theorem crcBitStepN_shiftLeft (k x : Nat) : crcBitStepN k (x <<< k) = x := by
  induction k with
  | zero => rfl
  | succ k ih =>
    have hs : crcBitStep (x <<< (k+1)) = x <<< k := by
      rw [Nat.shiftLeft_succ, crcBitStep, Nat.mul_mod_right, if_neg (by decide), Nat.xor_zero, Nat.shiftRight_eq_div_pow, Nat.pow_one,
        Nat.mul_div_cancel_left _ (by decide)]
    rw [crcBitStepN, hs, ih]

theorem split_low_byte (x : Nat) : x = ((x >>> 8) <<< 8) ^^^ (x % 256) := by
  apply Nat.eq_of_testBit_eq
  intro i
  rw [Nat.testBit_xor, Nat.testBit_shiftLeft, Nat.testBit_shiftRight,
      show (256 : Nat) = 2 ^ 8 by rfl, Nat.testBit_mod_two_pow]
  by_cases hi : 8 ≤ i
  · have : ¬ i < 8 := by omega
    simp [hi, this, Nat.add_sub_cancel' hi]
  · have : i < 8 := by omega
    simp [hi, this]

theorem crc_byte_update (c b : Nat) (hb : b < 256) :
    crcBitStepN 8 (c ^^^ b) = (c >>> 8) ^^^ crcBitStepN 8 ((c ^^^ b) % 256) := by
  have hx := split_low_byte (c ^^^ b)
  have hhi : (c ^^^ b) >>> 8 = c >>> 8 := by
    rw [Nat.shiftRight_xor_distrib]
    have : b >>> 8 = 0 := by rw [Nat.shiftRight_eq_div_pow]; exact Nat.div_eq_of_lt hb
    rw [this, Nat.xor_zero]
  conv => lhs; rw [hx]
  rw [stepN_xor, hhi, crcBitStepN_shiftLeft]

theorem tableStep_snd (st : Nat × Nat) : (tableStep st).2 = st.2 >>> 1 := rfl

/-- the pair `(crc, n)` of the initialisation loop carries the bit-serial register as `crc ^^^ n` -/
theorem tableStep_xor (st : Nat × Nat) : (tableStep st).1 ^^^ (tableStep st).2 = crcBitStep (st.1 ^^^ st.2) := by
  obtain ⟨c, n⟩ := st
  simp only [tableStep, crcBitStep, Nat.shiftRight_xor_distrib]
  rcases Nat.mod_two_eq_zero_or_one (c ^^^ n) with h | h
  · simp only [h, Nat.zero_mul, Nat.xor_zero, Nat.zero_ne_one, if_false]
  · simp only [h, Nat.one_mul, if_true]
    ac_rfl

theorem tableEntry_xor (i : Nat) : tableEntry i ^^^ (i >>> 8) = crcBitStepN 8 i := by
  have h2 : i >>> 8 = (tableStep (tableStep (tableStep (tableStep (tableStep (tableStep (tableStep (tableStep (0, i))))))))).2 := by
    simp only [tableStep_snd, ← Nat.shiftRight_add]
  rw [h2, tableEntry]
  simp only [tableStep_xor, Nat.zero_xor, crcBitStepN]

-- through the lemma for a variable length: unfolding `crcTable` at this goal ends in `(kernel) deep recursion` on `List.range 256`
theorem crcTable_getD {i : Nat} (h : i < 256) : crcTable.getD i 0 = tableEntry i := Text.getD_map_range _ _ h

theorem crcTable_eq_steps (i : Nat) (h : i < 256) : crcTable.getD i 0 = crcBitStepN 8 i := by
  have h8 : i >>> 8 = 0 := by rw [Nat.shiftRight_eq_div_pow]; exact Nat.div_eq_of_lt h
  rw [crcTable_getD h, ← tableEntry_xor, h8, Nat.xor_zero]

theorem tableStep_fst_lt (st : Nat × Nat) (h : st.1 < 2 ^ 32) : (tableStep st).1 < 2 ^ 32 := by
  obtain ⟨c, n⟩ := st
  apply Nat.xor_lt_two_pow
  · exact Nat.lt_of_le_of_lt (Nat.shiftRight_le _ _) h
  · rcases Nat.mod_two_eq_zero_or_one (c ^^^ n) with h' | h' <;> simp only [h', crcPoly] <;> decide

theorem tableEntry_lt (i : Nat) : tableEntry i < 2 ^ 32 := by
  unfold tableEntry
  iterate 8 apply tableStep_fst_lt
  exact Nat.pow_pos (by decide)

theorem crcTable_lt : ∀ x ∈ crcTable, x < 2 ^ 32 := by
  simp only [crcTable, List.mem_map]
  rintro x ⟨i, _, rfl⟩
  exact tableEntry_lt i

theorem crcTable_getD_lt (i : Nat) : crcTable.getD i 0 < 2 ^ 32 := by
  rw [List.getD_eq_getElem?_getD]
  cases h : crcTable[i]? with
  | none => simp
  | some x => simp only [Option.getD_some]; exact crcTable_lt x (List.mem_of_getElem? h)

theorem crc_index_eq (c b : Nat) (hb : b < 256) : b ^^^ (c % 256) = (c ^^^ b) % 256 := by
  rw [show (256 : Nat) = 2 ^ 8 by rfl, Nat.xor_mod_two_pow, Nat.mod_eq_of_lt (show b < 2 ^ 8 from hb), Nat.xor_comm]

/-- one table-driven update is eight bit steps -/
theorem crc_table_step (c b : Nat) (hb : b < 256) : (c >>> 8) ^^^ crcTable.getD (b ^^^ (c % 256)) 0 = crcBitStepN 8 (c ^^^ b) := by
  rw [crc_index_eq c b hb, crcTable_eq_steps _ (Nat.mod_lt _ (by decide)), ← crc_byte_update c b hb]

end SshAudit.Wire
