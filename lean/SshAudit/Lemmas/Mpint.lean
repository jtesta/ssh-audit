/- Two's complement and minimal digits: what the mpint writers of `Model/Wire` produce and the readers give back; Python's big-endian
   primitives against them. -/
import SshAudit.Lemmas.Wire
import SshAudit.Model.Py
namespace SshAudit.Wire

theorem signedBE_cons (b : Nat) (r : List Nat) :
    signedBE (b :: r) = if 128 ≤ b then (ofBE (b :: r) : Int) - (256 : Int) ^ (r.length + 1) else (ofBE (b :: r) : Int) := rfl

theorem signedBE_toBE (z : Int) (L : Nat) (h0 : 0 ≤ z) (hM : z < (256 : Int) ^ (L+1)) :
    signedBE (toBE z.toNat (L+1)) = if 128 * (256 : Int) ^ L ≤ z then z - (256 : Int) ^ (L+1) else z := by
  obtain ⟨m, rfl⟩ := Int.eq_ofNat_of_zero_le h0
  have hm : m < 256 ^ (L+1) := by
    have : ((m : Nat) : Int) < ((256 ^ (L+1) : Nat) : Int) := by rw [Int.natCast_pow]; exact hM
    exact Int.ofNat_lt.mp this
  have hc : (128 * (256 : Int) ^ L ≤ (m : Int)) ↔ 128 * 256 ^ L ≤ m := by
    rw [show (128 : Int) * 256 ^ L = ((128 * 256 ^ L : Nat) : Int) by rw [Int.natCast_mul, Int.natCast_pow]; rfl]
    exact Int.ofNat_le
  have hq : m / 256 ^ L < 256 := by
    rw [Nat.div_lt_iff_lt_mul (Nat.pow_pos (by decide))]
    rw [Nat.pow_succ] at hm; omega
  -- the sign is that of the top digit `m / 256^L`; the digits as a whole are worth `m`
  rw [Int.toNat_natCast, toBE_cons, signedBE_cons, ← toBE_cons, ofBE_toBE, Nat.mod_eq_of_lt hm, toBE_length, Nat.mod_eq_of_lt hq]
  simp only [hc, Nat.le_div_iff_mul_le (Nat.pow_pos (by decide : 0 < 256))]

theorem signed_roundtrip (n : Int) (L : Nat)
    (hlo : -(128 * (256 : Int) ^ L) ≤ n) (hhi : n < 128 * (256 : Int) ^ L) :
    signedBE (toBE (n % (256 : Int) ^ (L+1)).toNat (L+1)) = n := by
  have hP : (0 : Int) < 256 ^ L := Int.pow_pos (by decide)
  have hM : (256 : Int) ^ (L+1) = 256 * 256 ^ L := by rw [Int.pow_succ, Int.mul_comm]
  have hpos : (0 : Int) < 256 ^ (L+1) := by omega
  rw [signedBE_toBE _ L (Int.emod_nonneg _ (Int.ne_of_gt hpos)) (Int.emod_lt_of_pos _ hpos), hM]
  -- `n % 256^(L+1)` is `n` or `n + 256^(L+1)` according to the sign
  by_cases h0 : 0 ≤ n
  · rw [Int.emod_eq_of_lt h0 (by omega), if_neg (by omega)]
  · rw [← Int.add_emod_right n, Int.emod_eq_of_lt (by omega) (by omega), if_pos (by omega)]
    omega

theorem signedBE_drop_ff (b : Nat) (rest : List Nat) (hb : 128 ≤ b) :
    signedBE (255 :: b :: rest) = signedBE (b :: rest) := by
  rw [signedBE_cons 255, if_pos (by decide), signedBE_cons b, if_pos hb, ofBE_cons 255 (b :: rest), List.length_cons, Int.pow_succ, Int.natCast_add,
    Int.natCast_mul, Int.natCast_pow]
  show (255 : Int) * 256 ^ (rest.length + 1) + _ - _ = _
  generalize (256 : Int) ^ (rest.length + 1) = P
  omega

/-- sign extension -/
theorem signedBE_ones (p b : Nat) (rest : List Nat) (hb : 128 ≤ b) :
    signedBE (List.replicate p 255 ++ b :: rest) = signedBE (b :: rest) := by
  induction p with
  | zero => rfl
  | succ p ih =>
    rw [List.replicate_succ, List.cons_append, ← ih]
    cases p with
    | zero => exact signedBE_drop_ff b rest hb
    | succ q => exact signedBE_drop_ff 255 _ (by decide)

theorem signedBE_stripFF (l : List Nat) : signedBE (stripFF l) = signedBE l := by
  unfold stripFF
  split
  · next rest => exact (signedBE_drop_ff 128 rest (by decide)).symm
  · rfl

theorem stripFF_of_ne {a b : Nat} (rest : List Nat) (h : ¬ (a = 255 ∧ b = 128)) : stripFF (a :: b :: rest) = a :: b :: rest := by
  unfold stripFF
  split
  · next heq => cases heq; exact absurd ⟨rfl, rfl⟩ h
  · rfl

theorem stripFF_lt (l : List Nat) (h : ∀ d ∈ l, d < 256) : ∀ d ∈ stripFF l, d < 256 := by
  unfold stripFF
  split
  · next rest => exact List.forall_mem_cons.mpr ⟨by decide, fun d hd => h d (List.mem_cons_of_mem _ (List.mem_cons_of_mem _ hd))⟩
  · exact h

theorem createMpint_lt (n : Int) : ∀ d ∈ createMpint n, d < 256 := by
  unfold createMpint
  exact stripFF_lt _ (toBE_lt _ _)

/-- `n < 2^bits` and `bits ≤ 8·(bits/8) + 7` -/
theorem lt_half_pow_bitLen (n : Nat) : n < 128 * 256 ^ (bitLen n / 8) := by
  have h1 := lt_two_pow_bitLen n
  have h3 : (2:Nat) ^ bitLen n ≤ 2 ^ (8 * (bitLen n / 8) + 7) := Nat.pow_le_pow_right (by decide) (by omega)
  rw [Nat.pow_add, Nat.pow_mul, show (2:Nat) ^ 8 = 256 by decide, show (2:Nat) ^ 7 = 128 by decide, Nat.mul_comm] at h3
  omega

theorem fits_of_bitLen (n : Int) :
    -(128 * (256 : Int) ^ (bitLen n.natAbs / 8)) ≤ n ∧ n < 128 * (256 : Int) ^ (bitLen n.natAbs / 8) := by
  have h6 : ((n.natAbs : Nat) : Int) < ((128 * 256 ^ (bitLen n.natAbs / 8) : Nat) : Int) := Int.ofNat_lt.mpr (lt_half_pow_bitLen n.natAbs)
  rw [Int.natCast_mul, Int.natCast_pow, Int.cast_ofNat_Int, Int.cast_ofNat_Int] at h6
  omega

/-- the byte count `_create_mpint` allots (`bit_length // 8`, plus one unless `n == 0`) is enough -/
theorem lt_pow_mpint_len (n : Nat) : n < 256 ^ (bitLen n / 8 + if n = 0 then 0 else 1) := by
  split
  · next h0 => rw [h0]; exact Nat.pow_pos (by decide)
  · have := lt_half_pow_bitLen n
    rw [Nat.pow_succ]
    omega

theorem createMpintI_nat (n : Nat) : createMpintI (n : Int) = createMpintU n := by
  have hz : ((n : Int) = 0) = (n = 0) := by rw [Int.natCast_eq_zero]
  unfold createMpintI createMpintU
  simp only [Int.natAbs_natCast, hz]
  rw [show (256 : Int) = ((256 : Nat) : Int) from rfl, ← Int.natCast_pow, ← Int.natCast_emod, Int.toNat_natCast,
    Nat.mod_eq_of_lt (lt_pow_mpint_len n)]

/-- minimal big-endian base-256 digits -/
def minBE (n : Nat) : List Nat := if n = 0 then [] else minBE (n / 256) ++ [n % 256]
decreasing_by omega

theorem minBE_zero : minBE 0 = [] := by unfold minBE; rfl
theorem minBE_of_ne_zero {n : Nat} (h : n ≠ 0) : minBE n = minBE (n / 256) ++ [n % 256] := by
  rw [minBE, if_neg h]

theorem ofBE_minBE (n : Nat) : ofBE (minBE n) = n := by
  fun_induction minBE n with
  | case1 => rfl
  | case2 n h ih => rw [ofBE_append_single, ih, Nat.div_add_mod']

theorem minBE_lt (n : Nat) : ∀ d ∈ minBE n, d < 256 := by
  fun_induction minBE n with
  | case1 => exact fun _ hd => nomatch hd
  | case2 n h ih => exact List.forall_mem_append.mpr ⟨ih, List.forall_mem_singleton.mpr (Nat.mod_lt _ (by decide))⟩

theorem dropWhile_toBE (L n : Nat) (h : n < 256 ^ L) : (toBE n L).dropWhile (· = 0) = minBE n := by
  induction L generalizing n with
  | zero =>
    have : n = 0 := by simpa using h
    rw [this, minBE_zero]
    rfl
  | succ L ih =>
    have hd : n / 256 < 256 ^ L := by
      rw [Nat.div_lt_iff_lt_mul (by decide)]; rw [Nat.pow_succ] at h; omega
    rw [toBE, List.dropWhile_append, ih _ hd]
    by_cases h2 : n / 256 = 0
    · rw [h2, minBE_zero]
      by_cases h0 : n = 0
      · rw [h0, minBE_zero]; rfl
      · rw [minBE_of_ne_zero h0, h2, minBE_zero]
        have : n % 256 ≠ 0 := by omega
        simp [this]
    · have h0 : n ≠ 0 := by omega
      rw [minBE_of_ne_zero h0, minBE_of_ne_zero h2]
      simp

theorem bitLen_step (n : Nat) (h : n ≠ 0) : (bitLen n + 7) / 8 = (bitLen (n / 256) + 7) / 8 + 1 := by
  -- dividing by 256 takes eight bits off
  have hk : ∀ k, bitLen (n / 256) ≤ k ↔ bitLen n ≤ k + 8 := fun k => by
    rw [bitLen_le_iff, bitLen_le_iff, Nat.div_lt_iff_lt_mul (by decide), Nat.pow_add]
  have h0 := hk 0
  have h1 := hk (bitLen (n / 256))
  have h2 := hk (bitLen n - 8)
  have h3 := bitLen_pos_of_pos n (Nat.pos_of_ne_zero h)
  omega

theorem minBE_length (n : Nat) : (minBE n).length = (bitLen n + 7) / 8 := by
  fun_induction minBE n with
  | case1 => rfl
  | case2 n h ih => rw [List.length_append, List.length_singleton, ih, bitLen_step n h]

/-! ### `Py.beNat`, `Py.beBytes`, `lstrip` and the digits of an `Int` are `ofBE` / `toBE` -/

theorem ofBE_natsOf (v : Bytes) : (ofBE (natsOf v)) = Py.beNat v := by
  unfold ofBE natsOf Py.beNat
  rw [List.foldl_map]

theorem beNat_append (a b : Bytes) : Py.beNat (a ++ b) = Py.beNat a * 256 ^ b.length + Py.beNat b := by
  rw [← ofBE_natsOf, ← ofBE_natsOf, ← ofBE_natsOf, natsOf_append, ofBE_append, natsOf_length]

theorem beNat_lt (b : Bytes) : Py.beNat b < 256 ^ b.length := by
  rw [← ofBE_natsOf, ← natsOf_length]
  exact ofBE_lt _ (natsOf_lt b)

-- `beNat_lt` for one 32-bit word, the bound as the numeral the word loop of `_parse_mpint` is proved with
theorem word_lt (a b c d : UInt8) : Py.beNat [a, b, c, d] < 4294967296 := by
  have := beNat_lt [a, b, c, d]
  simpa using this

theorem beNat_word (a b c d : UInt8) (rest : Bytes) {m : Nat} (hm : rest.length = 4 * m) :
    Py.beNat (a :: b :: c :: d :: rest) = Py.beNat [a, b, c, d] * 4294967296 ^ m + Py.beNat rest := by
  have := beNat_append [a, b, c, d] rest
  rw [hm, Nat.pow_mul] at this
  exact this

theorem beNat_zeros (p : Nat) : Py.beNat (List.replicate p (0 : UInt8)) = 0 := by
  induction p with
  | zero => rfl
  -- a leading zero leaves the accumulator at `0 * 256 + 0`, which reduces to `0`: the goal is the hypothesis
  | succ p ih => exact ih

/-- the low `L` base-256 digits of an integer in two's complement, most significant first -/
def toBEi (n : Int) : Nat → List Nat
  | 0 => []
  | L+1 => toBEi (n / 256) L ++ [(n % 256).toNat]

theorem toBEi_length (n : Int) (L : Nat) : (toBEi n L).length = L := by
  induction L generalizing n with
  | zero => rfl
  | succ L ih => simp [toBEi, ih]

theorem emod_mul_ediv (n C : Int) {b : Int} (hb : 0 < b) : n % (b * C) / b = n / b % C := by
  rw [Int.emod_def, Int.emod_def, ← Int.ediv_ediv_of_nonneg (Int.le_of_lt hb), Int.mul_assoc, Int.sub_eq_add_neg, ← Int.mul_neg,
    Int.add_mul_ediv_left _ _ (Int.ne_of_gt hb), ← Int.sub_eq_add_neg]

theorem toBEi_natCast (m L : Nat) : toBEi (m : Int) L = toBE m L := by
  induction L generalizing m with
  | zero => rfl
  | succ L ih =>
    rw [toBEi, toBE, show (256 : Int) = ((256 : Nat) : Int) from rfl, ← Int.natCast_ediv, ← Int.natCast_emod, ih, Int.toNat_natCast]

theorem toBEi_emod (n : Int) (L : Nat) : toBEi (n % (256 : Int) ^ L) L = toBEi n L := by
  induction L generalizing n with
  | zero => rfl
  | succ L ih =>
    have hp : (256 : Int) ^ (L + 1) = 256 * 256 ^ L := by rw [Int.pow_succ, Int.mul_comm]
    rw [toBEi, toBEi, hp, emod_mul_ediv n _ (by decide), ih, Int.emod_emod_of_dvd n (Int.dvd_mul_right _ _)]

theorem toBEi_eq (n : Int) (L : Nat) : toBEi n L = toBE ((n % (256 : Int) ^ L).toNat) L := by
  rw [← toBEi_emod, ← toBEi_natCast, Int.toNat_of_nonneg (Int.emod_nonneg _ (Int.ne_of_gt (Int.pow_pos (by decide))))]

theorem toBEi_add (n : Int) (a b : Nat) : toBEi n (a + b) = toBEi (n / (256 : Int) ^ b) a ++ toBEi n b := by
  induction b generalizing n with
  | zero => simp [toBEi]
  | succ b ih =>
    have hp : (256 : Int) ^ (b + 1) = 256 * 256 ^ b := by rw [Int.pow_succ, Int.mul_comm]
    rw [← Nat.add_assoc]
    simp only [toBEi, ih, hp, List.append_assoc]
    rw [Int.ediv_ediv_of_nonneg (by decide)]

theorem toBEi_drop (n : Int) (k l : Nat) : (toBEi n (k + l)).drop k = toBEi n l := by
  rw [toBEi_add]
  exact List.drop_left' (toBEi_length (n / (256 : Int) ^ l) k)

theorem beBytes_eq (m L : Nat) : Py.beBytes m L = bytesOf (toBE m L) := by
  induction L generalizing m with
  | zero => rfl
  | succ L ih => simp [Py.beBytes, toBE, bytesOf, ih]

theorem dropWhile_congr_mem {p q : α → Bool} {l : List α} (h : ∀ a ∈ l, p a = q a) : l.dropWhile p = l.dropWhile q := by
  induction l with
  | nil => rfl
  | cons a l ih =>
    rw [List.dropWhile_cons, List.dropWhile_cons, h a List.mem_cons_self, ih (fun b hb => h b (List.mem_cons_of_mem _ hb))]

theorem lstrip_bytesOf (L : List Nat) (h : ∀ d ∈ L, d < 256) :
    Py.lstripB (bytesOf L) ([0] : Bytes) = bytesOf (L.dropWhile (· = 0)) := by
  rw [Py.lstripB, bytesOf, List.dropWhile_map]
  refine congrArg _ (dropWhile_congr_mem fun a ha => ?_)
  -- on digits, `UInt8.ofNat a` is the byte 0 exactly when `a = 0`
  have h0 : (UInt8.ofNat a == (0 : UInt8)) = decide (a = 0) := uint8_ofNat_beq a 0 (h a ha) (by decide)
  simp only [Function.comp, List.contains, List.elem, h0]
  cases decide (a = 0) <;> rfl

end SshAudit.Wire
