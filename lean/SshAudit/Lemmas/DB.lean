/- `cat_eq`: the list of a category is empty or the list of an entry of the database; membership in the database (`lookup_mem`, `forall_keys`) goes through it; `mem_keys_iff` relates `keys` and `lookup` directly. -/
import SshAudit.Model.DB
namespace SshAudit
namespace DBm

theorem cat_eq (db : DB) (c : Str) : cat db c = [] ∨ ∃ ce ∈ db, ce.1 = c ∧ cat db c = ce.2 := by
  unfold cat
  cases h : db.find? (fun x => decide (x.1 = c)) with
  | none => exact Or.inl rfl
  | some ce => exact Or.inr ⟨ce, List.mem_of_find?_eq_some h, by simpa using List.find?_some h, rfl⟩

theorem mem_keys_iff (db : DB) (c k : Str) : k ∈ keys db c ↔ ∃ e, lookup db c k = some e := by
  unfold keys lookup
  constructor
  · intro h
    obtain ⟨e, he, hn⟩ := List.mem_map.mp h
    exact Option.isSome_iff_exists.mp (List.find?_isSome.mpr ⟨e, he, by simpa using hn⟩)
  · rintro ⟨e, h⟩
    exact List.mem_map.mpr ⟨e, List.mem_of_find?_eq_some h, by simpa using List.find?_some h⟩

theorem lookup_mem (db : DB) (c n : Str) (e : Entry) (h : lookup db c n = some e) : ∃ kv ∈ db, e ∈ kv.2 := by
  rcases cat_eq db c with hc | ⟨ce, hce, _, hc⟩
  · rw [lookup, hc] at h; cases h
  · exact ⟨ce, hce, hc ▸ List.mem_of_find?_eq_some h⟩

/-- the hypothesis has the form a `decide +kernel` sweep over the table proves -/
theorem forall_keys {db : DB} {P : Str → Str → Prop} (h : ∀ ce ∈ db, ∀ e ∈ ce.2, P ce.1 e.name) : ∀ c k, k ∈ keys db c → P c k := by
  intro c k hk
  obtain ⟨e, he, rfl⟩ := List.mem_map.mp hk
  rcases cat_eq db c with h0 | ⟨ce, hm, rfl, h1⟩
  · rw [h0] at he; cases he
  · exact h ce hm e (h1 ▸ he)

theorem isSome_of_keys {db db' : DB} {c : Str} (h : keys db' c = keys db c) (n : Str) :
    (lookup db' c n).isSome = (lookup db c n).isSome := by
  rw [Bool.eq_iff_iff, Option.isSome_iff_exists, Option.isSome_iff_exists, ← mem_keys_iff, ← mem_keys_iff, h]

end DBm
end SshAudit
