/-
  A three-way comparison that is antisymmetric and transitive (`IsPreCmp`) stays one under pull-back and under "first by `c₁`, ties by
  `c₂`"; Python's `<` / `>` ladder over a strict total order (`StrictTotal`, which Python's sequence `<` inherits from its elements) is
  such a comparison, and a fold that keeps the greater element ends with a greatest one — the slot rule of `Timeframe._update` is that
  fold.  On the version grammar `digits(.digits)*` (`render`, `WfDs`, `PatchShape`) the regular-expression fragments of the model take
  `<version><patch>` apart again.
-/
import SshAudit.Model.Version
import SshAudit.Lemmas.Text
namespace SshAudit
namespace Version
open Text

/-- `c` is the three-way comparison of a total pre-order on the elements satisfying `P` -/
structure IsPreCmp {α : Type} (P : α → Prop) (c : α → α → Int) : Prop where
  antisymm : ∀ a b, P a → P b → c a b = - c b a
  trans : ∀ a b d, P a → P b → P d → c a b ≤ 0 → c b d ≤ 0 → c a d ≤ 0

namespace IsPreCmp
variable {α : Type} {P : α → Prop} {c : α → α → Int}

theorem lt_of_lt_of_le (h : IsPreCmp P c) {a b d : α} (ha : P a) (hb : P b) (hd : P d)
    (h1 : c a b < 0) (h2 : c b d ≤ 0) : c a d < 0 := by
  have t2 := h.trans b d a hb hd ha
  have a1 := h.antisymm a b ha hb
  have a3 := h.antisymm a d ha hd
  omega

theorem lt_of_le_of_lt (h : IsPreCmp P c) {a b d : α} (ha : P a) (hb : P b) (hd : P d)
    (h1 : c a b ≤ 0) (h2 : c b d < 0) : c a d < 0 := by
  have t1 := h.trans d a b hd ha hb
  have a2 := h.antisymm b d hb hd
  have a3 := h.antisymm a d ha hd
  omega

theorem eq_trans (h : IsPreCmp P c) {a b d : α} (ha : P a) (hb : P b) (hd : P d)
    (h1 : c a b = 0) (h2 : c b d = 0) : c a d = 0 := by
  have t1 := h.trans a b d ha hb hd
  have t2 := h.trans d b a hd hb ha
  have a1 := h.antisymm a b ha hb
  have a2 := h.antisymm b d hb hd
  have a3 := h.antisymm a d ha hd
  omega

theorem comap {β : Type} {Q : β → Prop} (f : β → α) (h : IsPreCmp P c) (hq : ∀ b, Q b → P (f b)) :
    IsPreCmp Q (fun x y => c (f x) (f y)) :=
  ⟨fun a b ha hb => h.antisymm _ _ (hq a ha) (hq b hb),
   fun a b d ha hb hd => h.trans _ _ _ (hq a ha) (hq b hb) (hq d hd)⟩

theorem lex_le_zero (x y : Int) : (if x ≠ 0 then x else y) ≤ 0 ↔ x < 0 ∨ (x = 0 ∧ y ≤ 0) := by
  split <;> omega

theorem lex {c₁ c₂ : α → α → Int} (h₁ : IsPreCmp P c₁) (h₂ : IsPreCmp P c₂) :
    IsPreCmp P (fun a b => if c₁ a b ≠ 0 then c₁ a b else c₂ a b) := by
  constructor
  · intro a b ha hb
    have a1 := h₁.antisymm a b ha hb
    have a2 := h₂.antisymm a b ha hb
    show (if c₁ a b ≠ 0 then c₁ a b else c₂ a b) = -(if c₁ b a ≠ 0 then c₁ b a else c₂ b a)
    split <;> split <;> omega
  · intro a b d ha hb hd
    simp only [lex_le_zero]
    rintro (x | ⟨x, x'⟩) y
    · exact Or.inl (h₁.lt_of_lt_of_le ha hb hd x (by omega))
    · rcases y with y | ⟨y, y'⟩
      · exact Or.inl (h₁.lt_of_le_of_lt ha hb hd (by omega) y)
      · exact Or.inr ⟨h₁.eq_trans ha hb hd x y, h₂.trans a b d ha hb hd x' y'⟩

theorem congr {c' : α → α → Int} (h : IsPreCmp P c)
    (e : ∀ a b, P a → P b → c' a b = c a b) : IsPreCmp P c' :=
  ⟨fun a b ha hb => by rw [e a b ha hb, e b a hb ha]; exact h.antisymm a b ha hb,
   fun a b d ha hb hd => by rw [e a b ha hb, e b d hb hd, e a d ha hd]; exact h.trans a b d ha hb hd⟩

end IsPreCmp

structure StrictTotal {α : Type} (lt : α → α → Bool) : Prop where
  irrefl : ∀ a, lt a a = false
  trans : ∀ a b c, lt a b = true → lt b c = true → lt a c = true
  tri : ∀ a b, lt a b = false → lt b a = false → a = b

namespace StrictTotal
variable {α : Type} {lt : α → α → Bool}

theorem asymm (h : StrictTotal lt) {a b : α} (hab : lt a b = true) : lt b a = false := by
  cases hba : lt b a
  · rfl
  · rw [← h.irrefl a, ← h.trans a b a hab hba]

/-- `a ≤ b ≤ c → a ≤ c`, where `a ≤ b` is `lt b a = false` -/
theorem le_trans (h : StrictTotal lt) {a b c : α} (hab : lt b a = false) (hbc : lt c b = false) : lt c a = false := by
  cases hca : lt c a
  · rfl
  · cases hab' : lt a b
    · rw [h.tri a b hab' hab] at hca; rw [← hbc, hca]
    · rw [← hbc, h.trans c a b hca hab']

theorem swap (h : StrictTotal lt) : StrictTotal (fun a b => lt b a) :=
  ⟨h.irrefl, fun a b c hab hbc => h.trans c b a hbc hab, fun a b h1 h2 => h.tri a b h2 h1⟩

theorem foldl_max (h : StrictTotal lt) (p : α) (vs : List α) :
    vs.foldl (fun m v => if lt m v then v else m) p ∈ p :: vs ∧
      ∀ v ∈ p :: vs, lt (vs.foldl (fun m v => if lt m v then v else m) p) v = false := by
  induction vs generalizing p with
  | nil => exact ⟨List.mem_singleton.mpr rfl, fun v hv => by rw [List.mem_singleton.mp hv]; exact h.irrefl p⟩
  | cons x xs ih =>
    obtain ⟨hmem, hall⟩ := ih (if lt p x then x else p)
    -- the survivor of `p` and `x` is below the result, and both are below the survivor
    have hm := hall _ (List.mem_cons_self ..)
    have hp : lt (if lt p x then x else p) p = false := by
      split
      · next hpx => exact h.asymm hpx
      · exact h.irrefl p
    have hx : lt (if lt p x then x else p) x = false := by
      split
      · exact h.irrefl x
      · next hpx => exact (Bool.not_eq_true _).mp hpx
    refine ⟨?_, ?_⟩
    · rcases List.mem_cons.mp hmem with e | e
      · rw [List.foldl_cons, e]; split <;> simp
      · exact List.mem_cons_of_mem _ (List.mem_cons_of_mem _ e)
    · intro v hv
      rcases List.mem_cons.mp hv with e | hv
      · rw [e]; exact h.le_trans hp hm
      · rcases List.mem_cons.mp hv with e | hv
        · rw [e]; exact h.le_trans hx hm
        · exact hall v (List.mem_cons_of_mem _ hv)

end StrictTotal

theorem lexLt_cons {α : Type} {lt : α → α → Bool} (h : StrictTotal lt) (x y : α) (xs ys : List α) :
    lexLt lt (x :: xs) (y :: ys) = true ↔ lt x y = true ∨ (x = y ∧ lexLt lt xs ys = true) := by
  simp only [lexLt]
  cases hxy : lt x y
  · cases hyx : lt y x
    · have e := h.tri x y hxy hyx
      simp [e]
    · have : x ≠ y := fun e => by rw [e, h.irrefl] at hyx; cases hyx
      simp [this]
  · simp

theorem lexLt_strictTotal {α : Type} {lt : α → α → Bool} (h : StrictTotal lt) : StrictTotal (lexLt lt) := by
  refine ⟨fun a => ?_, fun a b c => ?_, fun a b => ?_⟩
  · induction a with
    | nil => rfl
    | cons x xs ih => simp [lexLt, h.irrefl, ih]
  · induction a generalizing b c with
    | nil =>
      intro _ hbc
      cases c with
      | nil => cases b <;> cases hbc
      | cons z zs => rfl
    | cons x xs ih =>
      intro hab hbc
      rcases b with _ | ⟨y, ys⟩
      · cases hab
      rcases c with _ | ⟨z, zs⟩
      · cases hbc
      rw [lexLt_cons h] at hab hbc ⊢
      rcases hab with h1 | ⟨rfl, h1⟩
      · rcases hbc with h2 | ⟨rfl, _⟩
        · exact Or.inl (h.trans x y z h1 h2)
        · exact Or.inl h1
      · rcases hbc with h2 | ⟨rfl, h2⟩
        · exact Or.inl h2
        · exact Or.inr ⟨rfl, ih ys zs h1 h2⟩
  · fun_induction lexLt lt a b with
    | case1 => exact fun _ _ => rfl
    | case2 => nofun
    | case3 => nofun
    | case4 => nofun
    | case5 x xs y ys hxy hyx => simp [lexLt, hyx]
    | case6 x xs y ys hxy hyx ih =>
      intro hab hba
      have e := h.tri x y (Bool.not_eq_true _ ▸ hxy) (Bool.not_eq_true _ ▸ hyx)
      subst e
      simp only [lexLt, hxy, Bool.false_eq_true, if_false] at hba
      rw [ih hab hba]

theorem natLt_strictTotal : StrictTotal natLt :=
  ⟨fun a => by simp [natLt], fun a b c => by simp only [natLt, decide_eq_true_eq]; omega,
   fun a b => by simp only [natLt, decide_eq_false_iff_not]; omega⟩

theorem charLt_strictTotal : StrictTotal charLt :=
  ⟨fun a => by simp [charLt, Char.lt_irrefl],
   fun a b c => by simp only [charLt, decide_eq_true_eq]; exact Char.lt_trans,
   fun a b => by
     simp only [charLt, decide_eq_false_iff_not]
     intro h1 h2
     exact Char.le_antisymm (Char.not_lt.mp h2) (Char.not_lt.mp h1)⟩

theorem strLt_strictTotal : StrictTotal strLt := lexLt_strictTotal charLt_strictTotal

theorem cmpOf_range {α : Type} (lt : α → α → Bool) (a b : α) : cmpOf lt a b = -1 ∨ cmpOf lt a b = 0 ∨ cmpOf lt a b = 1 := by
  fun_cases cmpOf lt a b <;> simp

theorem cmpOf_self {α : Type} {lt : α → α → Bool} (h : StrictTotal lt) (a : α) : cmpOf lt a a = 0 := by
  simp only [cmpOf, h.irrefl, Bool.false_eq_true, if_false]

theorem cmpOf_le_zero {α : Type} {lt : α → α → Bool} (h : StrictTotal lt) (a b : α) :
    cmpOf lt a b ≤ 0 ↔ lt b a = false := by
  unfold cmpOf
  cases hab : lt a b
  · cases hba : lt b a <;> simp
  · simp [h.asymm hab]

theorem cmpOf_swap {α : Type} {lt : α → α → Bool} (h : StrictTotal lt) (a b : α) : cmpOf lt a b = - cmpOf lt b a := by
  unfold cmpOf
  cases hab : lt a b
  · cases hba : lt b a <;> simp
  · simp [h.asymm hab]

theorem cmpOf_isPreCmp {α : Type} {lt : α → α → Bool} (h : StrictTotal lt) : IsPreCmp (fun _ : α => True) (cmpOf lt) := by
  refine ⟨fun a b _ _ => cmpOf_swap h a b, fun a b d _ _ _ => ?_⟩
  simp only [cmpOf_le_zero h]
  exact fun hab hbd => h.le_trans hab hbd

theorem opensshPatchCmp_range (a b : Str) :
    opensshPatchCmp a b = -1 ∨ opensshPatchCmp a b = 0 ∨ opensshPatchCmp a b = 1 := by
  fun_cases opensshPatchCmp a b
  · exact Or.inr (Or.inl rfl)
  · exact cmpOf_range _ _ _

theorem patchCmp_range (p a b : Str) : patchCmp p a b = -1 ∨ patchCmp p a b = 0 ∨ patchCmp p a b = 1 := by
  fun_cases patchCmp p a b
  · exact cmpOf_range _ _ _
  · exact opensshPatchCmp_range _ _
  · exact cmpOf_range _ _ _

theorem patchCmp_nil (p : Str) : patchCmp p [] [] = 0 := by
  fun_cases patchCmp p [] []
  · exact cmpOf_self strLt_strictTotal _
  · rfl
  · exact cmpOf_self strLt_strictTotal _

theorem betweenVersions_iff (self : Software) (f t : Str) :
    betweenVersions self f t = true ↔ (f ≠ [] → 0 ≤ compareVersion self f) ∧ (t ≠ [] → compareVersion self t ≤ 0) := by
  fun_cases betweenVersions self f t
  · next older => exact ⟨nofun, fun ⟨a, _⟩ => absurd (a older.1) (by omega)⟩
  · next _ newer => exact ⟨nofun, fun ⟨_, b⟩ => absurd (b newer.1) (by omega)⟩
  · next h1 h2 =>
    exact ⟨fun _ => ⟨fun hf => Int.not_lt.mp fun hl => h1 ⟨hf, hl⟩, fun ht => Int.not_lt.mp fun hl => h2 ⟨ht, hl⟩⟩, fun _ => rfl⟩

/-- `admits` returns `True` exactly when none of its four `continue` guards fires -/
theorem admits_some_iff (s : Software) (forServer : Bool) (v : Str) :
    admits (some s) forServer v = true ↔
      (getSshVersion v).2.1 ≠ [] ∧ (getSshVersion v).1 = s.product ∧ ¬ ((getSshVersion v).2.2 = true ∧ forServer = true)
        ∧ 0 ≤ compareVersion s (getSshVersion v).2.1 := by
  unfold admits
  rcases getSshVersion v with ⟨prod, ver, cli⟩
  simp only [Bool.if_false_left, Bool.and_eq_true, Bool.not_eq_true', decide_eq_false_iff_not, decide_eq_true_eq, Bool.and_true,
    ne_eq, Decidable.not_not, Int.not_lt]

theorem split_join (c : Char) (ps : List Str) (hne : ps ≠ []) (h : ∀ p ∈ ps, c ∉ p) :
    splitOn c (join [c] ps) = ps :=
  splitOn_join c hne h

/-! The version texts the order theorems quantify over: `render ds` for dotted decimal components `ds` (`WfDs`), `vals ds` their numbers. -/

def IsNum (d : Str) : Prop := d ≠ [] ∧ d.all isDigit = true

/-- the components of a version text `digits(.digits)*` -/
def WfDs (ds : List Str) : Prop := ds ≠ [] ∧ ∀ d ∈ ds, IsNum d

def render (ds : List Str) : Str := join ['.'] ds

def decVal (d : Str) : Nat := d.foldl (fun acc c => acc * 10 + (c.toNat - '0'.toNat)) 0

def vals (ds : List Str) : List Nat := ds.map decVal

theorem IsNum.digits {d : Str} (h : IsNum d) : ∀ c ∈ d, isDigit c = true := List.all_eq_true.mp h.2

theorem isNum_no_dot {d : Str} (h : IsNum d) : '.' ∉ d :=
  fun hm => isDigit_ne (h.digits _ hm) (by decide) rfl

theorem parseNat?_isNum {d : Str} (h : IsNum d) : parseNat? d = some (decVal d) :=
  (parseNat?_eq h.1 h.digits).trans (congrArg some (foldl_digits_eq d).symm)

theorem mapM_parseNat? (ds : List Str) (h : ∀ d ∈ ds, IsNum d) : ds.mapM parseNat? = some (vals ds) := by
  induction ds with
  | nil => simp [vals]
  | cons d rest ih =>
    have h1 := parseNat?_isNum (h d (by simp))
    have h2 := ih (fun x hx => h x (by simp [hx]))
    simp [List.mapM_cons, h1, h2, vals]

theorem render_verChars (ds : List Str) (h : ∀ d ∈ ds, IsNum d) : ∀ c ∈ render ds, isVerChar c = true := by
  intro c hc
  rcases mem_join hc with hc | ⟨d, hd, hc⟩
  · rw [List.mem_singleton.mp hc]; rfl
  · simp [isVerChar, (h d hd).digits c hc]

theorem render_last (ds : List Str) (h : WfDs ds) : ∃ pre c, render ds = pre ++ [c] ∧ isDigit c = true := by
  obtain ⟨hne, hall⟩ := h
  induction ds with
  | nil => exact absurd rfl hne
  | cons d rest ih =>
    cases rest with
    | nil =>
      have hd := hall d (by simp)
      exact ⟨d.dropLast, d.getLast hd.1, (List.dropLast_concat_getLast hd.1).symm, hd.digits _ (List.getLast_mem hd.1)⟩
    | cons q rs =>
      obtain ⟨pre, c, e, hc⟩ := ih (by simp) (fun x hx => hall x (by simp [hx]))
      refine ⟨d ++ '.' :: pre, c, ?_, hc⟩
      simp only [render, join, List.append_assoc, List.singleton_append] at e ⊢
      rw [e]; simp

theorem render_first (ds : List Str) (h : WfDs ds) : ∃ c rest, render ds = c :: rest ∧ isDigit c = true := by
  obtain ⟨hne, hall⟩ := h
  cases ds with
  | nil => exact absurd rfl hne
  | cons d rest =>
    have hd := hall d (by simp)
    cases d with
    | nil => exact absurd rfl hd.1
    | cons c cs => exact ⟨c, join ['.'] (cs :: rest), join_cons_append ['.'] [c] cs rest, hd.digits c (by simp)⟩

theorem render_ne_nil (ds : List Str) (h : WfDs ds) : render ds ≠ [] := by
  obtain ⟨pre, c, e, _⟩ := render_last ds h
  rw [e]; simp

theorem dotNum?_render (ds : List Str) (h : WfDs ds) : dotNum? (render ds) = some (vals ds) := by
  obtain ⟨pre, c, e, hc⟩ := render_last ds h
  have hlast : (render ds).getLast? ≠ some '\n' := by
    rw [e, List.getLast?_concat]
    intro hh
    exact isDigit_ne hc (by decide) (Option.some.inj hh)
  simp only [dotNum?, hlast, if_false]
  rw [render, splitOn_join '.' h.1 (fun p hp => isNum_no_dot (h.2 p hp))]
  exact mapM_parseNat? ds h.2

theorem stripDots_render (ds : List Str) (h : WfDs ds) : stripDots (render ds) = render ds := by
  obtain ⟨pre, c, e, hc⟩ := render_last ds h
  have hcd : c ≠ '.' := isDigit_ne hc (by decide)
  rw [e]
  simp [stripDots, List.reverse_append, hcd]

theorem pyStrip_eq : pyStrip = stripBy pySpace := rfl

/-- what a patch suffix must look like for `^([\d\.]*\d+)(.*)$` + `.strip()` to return it
    unchanged: it does not continue the version, has no newline and no outer white space -/
structure PatchShape (pa : Str) : Prop where
  head : ∀ c, pa.head? = some c → isVerChar c = false
  noNl : '\n' ∉ pa
  stripped : pyStrip pa = pa

theorem patchShape_nil : PatchShape [] := ⟨by simp, by simp, rfl⟩

/-- `PatchShape` as a test that evaluates -/
def patchShapeB (pa : Str) : Bool :=
  (match pa with | [] => true | c :: _ => !isVerChar c) && !pa.contains '\n' && pyStrip pa == pa

theorem patchShape_of_check (pa : Str) (h : patchShapeB pa = true) : PatchShape pa := by
  simp only [patchShapeB, Bool.and_eq_true, Bool.not_eq_true', beq_iff_eq] at h
  obtain ⟨⟨h1, h2⟩, h3⟩ := h
  refine ⟨fun c hc => ?_, (contains_false_iff pa '\n').mp h2, h3⟩
  cases pa with
  | nil => cases hc
  | cons x xs =>
    cases hc
    simpa using h1

theorem notNl_of_not_mem {pa : Str} (h : '\n' ∉ pa) : ∀ a ∈ pa, notNl a = true := fun a ha => by
  simp only [notNl, bne_iff_ne, ne_eq]
  intro e; subst e; exact h ha

theorem dotTail_noNl (pa : Str) (h : '\n' ∉ pa) : dotTail pa = some pa := by
  simp [dotTail, dropWhile_of_all (notNl_of_not_mem h), takeWhile_of_all (notNl_of_not_mem h)]

theorem dotStar_noNl (pa : Str) (h : '\n' ∉ pa) : dotStar pa = pa :=
  takeWhile_of_all (notNl_of_not_mem h)

theorem verPrefixN_render (n : Nat) (ds : List Str) (h : WfDs ds) (hn : n ≤ (render ds).length) (pa : Str) (hp : PatchShape pa) :
    verPrefixN n (render ds ++ pa) = some (render ds, pa) := by
  unfold verPrefixN
  simp only [takeWhile_append_stop (render_verChars ds h.2) hp.head, stripDots_render ds h, hn, if_true, List.drop_left]

theorem stripPrefix?_append (p r : Str) : stripPrefix? p (p ++ r) = some r := by
  induction p with
  | nil => cases r <;> rfl
  | cons x xs ih => simp [stripPrefix?, ih]

theorem stripPrefix?_head_ne (x : Char) (xs : Str) (c : Char) (cs : Str) (h : x ≠ c) : stripPrefix? (x :: xs) (c :: cs) = none := by
  simp [stripPrefix?, h]

theorem nameVer_hit (name : Str) (ds : List Str) (h : WfDs ds) (h2 : 2 ≤ (render ds).length) (pa : Str) (hp : PatchShape pa) :
    nameVer name (name ++ (render ds ++ pa)) = some (render ds, pa) := by
  unfold nameVer
  rw [stripPrefix?_append]
  simp only [verPrefix, verPrefixN_render 2 ds h h2 pa hp, Option.map_some, dotStar_noNl pa hp.noNl]

theorem nameVer_miss (x : Char) (xs : Str) (c : Char) (cs : Str) (h : x ≠ c) : nameVer (x :: xs) (c :: cs) = none := by
  unfold nameVer
  rw [stripPrefix?_head_ne x xs c cs h]

theorem pPatchSplit_g1 (x g1 g2 : Str) : pPatchSplit x = some (g1, g2) → ∃ d, g1 = ['p', d] := by
  fun_cases pPatchSplit x
  · next d rest _ =>
    intro h
    obtain ⟨t, _, e⟩ := Option.map_eq_some_iff.mp h
    exact ⟨d, (Prod.mk.inj e).1.symm⟩
  · nofun
  · nofun

theorem natToStr_isNum (n : Nat) : IsNum (natToStr n) :=
  ⟨natToStr_ne_nil n, List.all_eq_true.mpr (natToStr_digits n)⟩

theorem decVal_natToStr (n : Nat) : decVal (natToStr n) = n :=
  (foldl_digits_eq _).trans (ofDigitChars_natToStr n)

def verText (ns : List Nat) : Str := render (ns.map natToStr)

theorem wfDs_canon (ns : List Nat) (h : ns ≠ []) : WfDs (ns.map natToStr) :=
  ⟨by simpa using h, fun d hd => by obtain ⟨n, _, rfl⟩ := List.mem_map.mp hd; exact natToStr_isNum n⟩

theorem vals_canon (ns : List Nat) : vals (ns.map natToStr) = ns := by
  induction ns with
  | nil => rfl
  | cons n rest ih => simp only [vals, List.map_cons, decVal_natToStr, List.cons.injEq, true_and] at ih ⊢; exact ih

/-- `v` replaces `r` under the rule of slot `pos` -/
def beats (pos : Nat) (v r : Str) : Bool := if pos % 2 = 0 then strLt r v else strLt v r

theorem slotStep_some (pos : Nat) (p v : Str) : slotStep pos (some p) v = some (if beats pos v p then v else p) := by
  have e : ((strLt p v && decide (pos % 2 = 0)) || (strLt v p && decide (pos % 2 = 1))) = beats pos v p := by
    unfold beats
    rcases Nat.mod_two_eq_zero_or_one pos with hp | hp <;> simp [hp]
  simp only [slotStep, e, apply_ite some]

theorem beats_strictTotal (pos : Nat) : StrictTotal (fun r v => beats pos v r) := by
  unfold beats
  split
  · exact strLt_strictTotal
  · exact strLt_strictTotal.swap

theorem foldl_slotStep_some (pos : Nat) (p : Str) (vs : List Str) :
    ∃ r, vs.foldl (slotStep pos) (some p) = some r ∧ r ∈ p :: vs ∧ ∀ v ∈ p :: vs, beats pos v r = false := by
  have e : vs.foldl (slotStep pos) (some p) = some (vs.foldl (fun m v => if beats pos v m then v else m) p) := by
    induction vs generalizing p with
    | nil => rfl
    | cons x xs ih => rw [List.foldl_cons, List.foldl_cons, slotStep_some, ih]
  exact ⟨_, e, (beats_strictTotal pos).foldl_max p vs⟩

end Version
end SshAudit
