/-
  C01 — Report lists exactly the algorithms the peer advertised.

  The report model `Report.report` builds the lines of each category from the peer's list of that
  category only; the theorems below say the names shown are exactly the advertised names that are
  not blank, once per occurrence, in order — for every list, database state, role and size map.
  The byte level (KEXINIT → lists) is C10's `kexinit_rt` plus `kexinit_lists_from_bytes` here.
-/
import SshAudit.Lemmas.Report
import SshAudit.Props.C10
namespace SshAudit.C01
open SshAudit SshAudit.Report

/-- **Text report, per category: exactly the advertised non-blank names, in order, with multiplicity.** -/
theorem text_names_exact (rf : List Str) (db : DB) (peer : Peer) (client : Bool) (bsw : Option Str) (sw : Option Version.Software) (rn : Str) :
    let r := report rf db peer client bsw sw rn
    r.kex.map (·.name) = peer.kex.filter (printed kexC) ∧
    r.key.map (·.name) = peer.key.filter (printed keyC) ∧
    r.enc.map (·.name) = peer.encS.filter (printed encC) ∧
    r.mac.map (·.name) = peer.macS.filter (printed macC) := by
  simp only [report, algLines_names, and_self]

/-- every line sits in its own category (nothing is moved to another category) -/
theorem lines_in_category (rf : List Str) (db : DB) (cat : Str) (ns : List Str) (hk : List (Str × HostKeyInfo)) (dh : List (Str × Nat)) :
    ∀ l ∈ algLines rf db cat ns hk dh, l.cat = cat ∧ l.name ∈ ns := by
  intro l hl
  obtain ⟨hn, hc, _⟩ := (mem_algLines rf db cat ns hk dh l).mp hl
  exact ⟨hc, hn⟩

/-- a name that is not blank is never dropped: non-gss names are printed iff they contain a non-space character -/
theorem printed_plain (cat n : Str) (h : ¬ (cat = kexC ∧ Text.startsWith n (s "gss-") = true)) :
    printed cat n = !(Text.stripU n).isEmpty := by
  rw [printed, (gssNormalize_cases cat n).resolve_right h]

/-- the role does not matter for which names are listed -/
theorem role_irrelevant (rf : List Str) (db : DB) (peer : Peer) (b1 b2 : Option Str) (s1 s2 : Option Version.Software) (r1 r2 : Str) :
    (report rf db peer true b1 s1 r1).kex.map (·.name) = (report rf db peer false b2 s2 r2).kex.map (·.name) ∧
    (report rf db peer true b1 s1 r1).key.map (·.name) = (report rf db peer false b2 s2 r2).key.map (·.name) ∧
    (report rf db peer true b1 s1 r1).enc.map (·.name) = (report rf db peer false b2 s2 r2).enc.map (·.name) ∧
    (report rf db peer true b1 s1 r1).mac.map (·.name) = (report rf db peer false b2 s2 r2).mac.map (·.name) := by
  simp only [report, algLines_names, and_self]

/-- the shown name is the advertised name, optionally followed by a " (…)" size suffix — never renamed -/
theorem shown_name_prefix (rf : List Str) (cat n : Str) (hk : List (Str × HostKeyInfo)) (dh : List (Str × Nat)) :
    shownName rf cat n hk dh = n ∨ ∃ sfx, shownName rf cat n hk dh = n ++ s " (" ++ sfx :=
  Report.shown_name_prefix rf cat n hk dh

/-- compression line: exactly the advertised methods other than "none", in order -/
theorem compression_text (rf : List Str) (db : DB) (peer : Peer) (client : Bool) (bsw : Option Str) (sw : Option Version.Software) (rn : Str) :
    (report rf db peer client bsw sw rn).compression = peer.compS.filter (· ≠ s "none") := rfl

theorem maskFrom_mem (start mask : Nat) (i : Nat) (names : List Str) (n : Str) :
    n ∈ maskFrom start mask i names ↔ ∃ j, start ≤ i + j ∧ mask.testBit (i + j) = true ∧ names[j]? = some n :=
  Report.maskFrom_mem start mask i names n

/-- **SSH-1: a name is listed iff its bit is set** (bit index ≥ `start`, inside the table) — every mask -/
theorem mask_mem (names : List Str) (start mask : Nat) (n : Str) :
    n ∈ maskNames names start mask ↔ ∃ i, start ≤ i ∧ mask.testBit i = true ∧ names[i]? = some n := by
  unfold maskNames
  rw [maskFrom_mem]
  simp

theorem maskFrom_sublist (start mask : Nat) (i : Nat) (names : List Str) : (maskFrom start mask i names).Sublist names :=
  Report.maskFrom_sublist start mask i names

/-- the listed names keep the table order, each at most once (a sublist of the table) -/
theorem mask_sublist (names : List Str) (start mask : Nat) : (maskNames names start mask).Sublist names :=
  maskFrom_sublist start mask 0 names

/-- of a well-formed KEXINIT the five lists the report shows (kex, key, encS, macS, compS) are read back as written (C10: all ten are) -/
theorem kexinit_lists_from_bytes (k : Wire.Kex) (bs : Bytes) (hwf : C10.KexWF k) (h : Wire.kexWrite k = .ok bs) :
    (Wire.kexParse bs).map (fun k' => (k'.kex, k'.key, k'.encS, k'.macS, k'.compS)) = .ok (k.kex, k.key, k.encS, k.macS, k.compS) := by
  rw [C10.kexinit_rt k bs hwf h]; rfl

example : printed kexC (s "gss-group14-sha256-toWM5Slw5Ew8Mqkay+al2g==") = true ∧ printed encC (s "  ") = false ∧ printed encC [] = false := by
  unfold s
  decode_literals
  decide +kernel
example : maskNames [s "none", s "idea", s "des", s "3des", s "tss", s "rc4", s "blowfish"] 0 72 = [s "3des", s "blowfish"] := by decide +kernel

end SshAudit.C01
