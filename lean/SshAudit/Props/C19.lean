/-
  C19 — A standard audit's footprint on the target is small and bounded.

  Model: SshAudit.Model.Footprint (+ Gex.run for the group-exchange probe loop).  The server is an arbitrary state
  machine deciding how every probe connection goes; all bounds hold for every such server.
-/
import SshAudit.Model.Footprint
import SshAudit.Lemmas.Text
import SshAudit.Props.C12
import SshAudit.Gen.Tables
namespace SshAudit.C19
open SshAudit SshAudit.Footprint

variable {σ : Type}

/-- a key-exchange computation request is `KEXDH_INIT` (30) or `GEX_INIT` (32) -/
def isInit (m : Nat) : Bool := m = msgKexdhInit || m = msgGexInit

/-- the only message sequences a connection of the audit ever carries -/
def shapes : List (List Nat) := [[], [20], [20, 30], [20, 34], [20, 34, 32]]

/-- what every connection satisfies: one of the five shapes (so: no NEWKEYS, no service or authentication request), at most
    one key-exchange computation request, closed if it was established -/
def WF (c : Conn) : Prop := c.sent ∈ shapes ∧ (c.sent.filter isInit).length ≤ 1 ∧ (c.connected = true → c.closed = true)

theorem probeConn_wf (ph : Phase) (viaGex : Bool) (o : ProbeOutcome) : WF (probeConn ph viaGex o) := by
  refine ⟨?_, ?_, id⟩
  · show probeSent viaGex o ∈ shapes
    cases o <;> cases viaGex <;> decide
  · show ((probeSent viaGex o).filter isInit).length ≤ 1
    cases o <;> cases viaGex <;> decide

/-- **every probe connection carries at most one `*_INIT`** and is closed if it was established -/
theorem probeConn_facts (ph : Phase) (viaGex : Bool) (o : ProbeOutcome) :
    ((probeConn ph viaGex o).sent.filter isInit).length ≤ 1 ∧ ((probeConn ph viaGex o).connected = true → (probeConn ph viaGex o).closed = true) :=
  (probeConn_wf ph viaGex o).2

/-- the handshake connection, and the retry as SSH-1 whether or not it gets as far as its KEXINIT -/
theorem hsConn_wf (rb : Bool) : WF { hsConn with sent := if rb then [msgKexinit] else [] } := by
  cases rb <;> exact ⟨by decide, by decide, fun _ => rfl⟩

def HkInv (types0 : List Str) (keys : List Str) (st : HkSt σ) (done : List Str) : Prop :=
  st.conns.length ≤ (done.filter (fun t => keys.contains t)).length ∧
  (∀ c ∈ st.conns, c.phase = .hostKey ∧ (c.sent.filter isInit).length ≤ 1 ∧ (c.connected = true → c.closed = true))

theorem hkStep_conns (rsaFamily : List Str) (viaGex : Bool) (srv : σ → Str → ProbeOutcome × Bool × σ) (keys : List Str) (st : HkSt σ) (t : Str) :
    (hkStep rsaFamily viaGex srv keys st t).conns = st.conns ∨
    (keys.contains t = true ∧ (hkStep rsaFamily viaGex srv keys st t).conns = st.conns ++ [probeConn .hostKey viaGex (srv st.srv t).1]) := by
  fun_cases hkStep rsaFamily viaGex srv keys st t
  case case1 | case2 | case3 => exact .inl rfl
  -- the three branches that probe differ in the rest of the state only
  case case4 | case5 | case6 =>
    exact .inr ⟨by simpa using ‹¬(!keys.contains t) = true›, by rw [‹srv st.srv t = _›]⟩

theorem hkStep_inv (rsaFamily : List Str) (viaGex : Bool) (srv : σ → Str → ProbeOutcome × Bool × σ) (keys : List Str) (st : HkSt σ) (t : Str) :
    (hkStep rsaFamily viaGex srv keys st t).conns.length ≤ st.conns.length + (if keys.contains t then 1 else 0) ∧
    (∀ c ∈ (hkStep rsaFamily viaGex srv keys st t).conns, c ∈ st.conns ∨ ∃ o, c = probeConn .hostKey viaGex o) := by
  rcases hkStep_conns rsaFamily viaGex srv keys st t with h | ⟨hk, h⟩
  · rw [h]
    exact ⟨Nat.le_add_right _ _, fun c hc => Or.inl hc⟩
  · rw [h, if_pos hk, List.length_append]
    exact ⟨Nat.le_refl _, fun c hc => (List.mem_append.1 hc).imp_right fun hc => ⟨_, List.mem_singleton.1 hc⟩⟩

theorem hk_fold_conns (rsaFamily : List Str) (viaGex : Bool) (srv : σ → Str → ProbeOutcome × Bool × σ) (keys : List Str) (types : List Str) (st : HkSt σ) :
    ∃ l, (types.foldl (hkStep rsaFamily viaGex srv keys) st).conns = st.conns ++ l ∧
      l.length ≤ (types.filter (fun t => keys.contains t)).length ∧ ∀ c ∈ l, ∃ o, c = probeConn .hostKey viaGex o := by
  induction types generalizing st with
  | nil => exact ⟨[], (List.append_nil _).symm, Nat.le_refl _, fun _ hc => nomatch hc⟩
  | cons t ts ih =>
    obtain ⟨l, hl, hn, hp⟩ := ih (hkStep rsaFamily viaGex srv keys st t)
    rw [List.foldl_cons, hl]
    rcases hkStep_conns rsaFamily viaGex srv keys st t with h | ⟨hk, h⟩
    · exact ⟨l, by rw [h], Nat.le_trans hn ((List.sublist_cons_self t ts).filter _).length_le, hp⟩
    · refine ⟨_ :: l, by rw [h, List.append_assoc]; rfl, ?_, List.forall_mem_cons.mpr ⟨⟨_, rfl⟩, hp⟩⟩
      rw [List.filter_cons_of_pos hk]
      exact Nat.succ_le_succ hn

theorem hk_fold (rsaFamily : List Str) (viaGex : Bool) (srv : σ → Str → ProbeOutcome × Bool × σ) (keys : List Str) (types : List Str) (st : HkSt σ) :
    (types.foldl (hkStep rsaFamily viaGex srv keys) st).conns.length ≤ st.conns.length + (types.filter (fun t => keys.contains t)).length ∧
    (∀ c ∈ (types.foldl (hkStep rsaFamily viaGex srv keys) st).conns, c ∈ st.conns ∨ ∃ o, c = probeConn .hostKey viaGex o) := by
  obtain ⟨l, hl, hn, hp⟩ := hk_fold_conns rsaFamily viaGex srv keys types st
  rw [hl, List.length_append]
  exact ⟨Nat.add_le_add_left hn _, fun c hc => (List.mem_append.1 hc).imp_right (hp c)⟩

theorem hostKeyPhase_conns (types rsaFamily startable gexNames : List Str) (srv : σ → Str → ProbeOutcome × Bool × σ) (s0 : σ) (kex keys : List Str) :
    (hostKeyPhase types rsaFamily startable gexNames srv s0 kex keys).conns.length ≤ (types.filter (fun t => keys.contains t)).length ∧
    ∀ c ∈ (hostKeyPhase types rsaFamily startable gexNames srv s0 kex keys).conns, ∃ viaGex o, c = probeConn .hostKey viaGex o := by
  unfold hostKeyPhase
  split
  · exact ⟨Nat.zero_le _, fun _ hc => nomatch hc⟩
  · next k hk =>
    obtain ⟨l, hl, hn, hp⟩ := hk_fold_conns rsaFamily (gexNames.contains k) srv keys types { srv := s0, parsed := [], conns := [], halted := false }
    rw [hl, List.nil_append]
    exact ⟨hn, fun c hc => ⟨_, hp c hc⟩⟩

/-- **Host-key phase: at most one connection per entry of the probe table whose type the peer advertises — entries counted as
    often as the table lists them — (hence ≤ the 17 table entries), each with at most one `KEXDH_INIT`/`GEX_INIT`, each closed** —
    for every server and every key list. -/
theorem hostkey_connections_bounded (types rsaFamily startable gexNames : List Str) (srv : σ → Str → ProbeOutcome × Bool × σ) (s0 : σ) (kex keys : List Str) :
    let st := hostKeyPhase types rsaFamily startable gexNames srv s0 kex keys
    st.conns.length ≤ (types.filter (fun t => keys.contains t)).length ∧ st.conns.length ≤ types.length ∧
    ∀ c ∈ st.conns, c.phase = .hostKey ∧ (c.sent.filter isInit).length ≤ 1 ∧ (c.connected = true → c.closed = true) := by
  obtain ⟨h1, h2⟩ := hostKeyPhase_conns types rsaFamily startable gexNames srv s0 kex keys
  refine ⟨h1, Nat.le_trans h1 (List.length_filter_le _ _), fun c hc => ?_⟩
  obtain ⟨viaGex, o, rfl⟩ := h2 c hc
  exact ⟨rfl, probeConn_facts .hostKey viaGex o⟩

theorem hostkey_conns_wf (types rsaFamily startable gexNames : List Str) (srv : σ → Str → ProbeOutcome × Bool × σ) (s0 : σ) (kex keys : List Str) :
    ∀ c ∈ (hostKeyPhase types rsaFamily startable gexNames srv s0 kex keys).conns, WF c := by
  intro c hc
  obtain ⟨viaGex, o, rfl⟩ := (hostKeyPhase_conns types rsaFamily startable gexNames srv s0 kex keys).2 c hc
  exact probeConn_wf _ _ o

/-- client audits and peers without a startable key exchange make no host-key connection at all -/
theorem no_startable_kex_no_probe (types rsaFamily startable gexNames : List Str) (srv : σ → Str → ProbeOutcome × Bool × σ) (s0 : σ) (kex keys : List Str)
    (h : ∀ k ∈ kex, startable.contains k = false) : (hostKeyPhase types rsaFamily startable gexNames srv s0 kex keys).conns = [] := by
  unfold hostKeyPhase
  rw [List.find?_eq_none.mpr fun k hk => ne_true_of_eq_false (h k hk)]

theorem gexServer_step (fsrv : σ → Gex.Probe → (ProbeOutcome × Option Nat) × σ) (n : Nat) (cs0 : List Conn) (s : σ × List Conn) (tr : List (Gex.Probe × Gex.Resp)) (p : Gex.Probe)
    (h : s.2.length = n + tr.length ∧ ∀ c ∈ s.2, c ∈ cs0 ∨ ∃ o, c = probeConn .gex true o) :
    (gexServer fsrv s p).2.2.length = n + (tr ++ [(p, (gexServer fsrv s p).1)]).length ∧
      ∀ c ∈ (gexServer fsrv s p).2.2, c ∈ cs0 ∨ ∃ o, c = probeConn .gex true o := by
  refine ⟨by simp only [gexServer, List.length_append, List.length_singleton, h.1, Nat.add_assoc], fun c hc => ?_⟩
  rcases List.mem_append.1 hc with hc | hc
  · exact h.2 c hc
  · exact Or.inr ⟨_, List.mem_singleton.1 hc⟩

theorem loop_conns (fsrv : σ → Gex.Probe → (ProbeOutcome × Option Nat) × σ) (bs : List Nat) (st : Gex.LoopSt (σ × List Conn)) (n : Nat)
    (h : st.srvSt.2.length = n + st.trace.length) :
    (Gex.loop (gexServer fsrv) bs st).srvSt.2.length = n + (Gex.loop (gexServer fsrv) bs st).trace.length ∧
    (∀ c ∈ (Gex.loop (gexServer fsrv) bs st).srvSt.2, c ∈ st.srvSt.2 ∨ ∃ o, c = probeConn .gex true o) :=
  Gex.loop_inv (gexServer fsrv) (fun s tr => s.2.length = n + tr.length ∧ ∀ c ∈ s.2, c ∈ st.srvSt.2 ∨ ∃ o, c = probeConn .gex true o)
    (gexServer_step fsrv n st.srvSt.2) bs st ⟨h, fun _ hc => Or.inl hc⟩

theorem run_conns (fsrv : σ → Gex.Probe → (ProbeOutcome × Option Nat) × σ) (s0 : σ) (b : Bool) :
    (gexPhase fsrv s0 b).srvSt.2.length = (gexPhase fsrv s0 b).trace.length ∧ ∀ c ∈ (gexPhase fsrv s0 b).srvSt.2, ∃ o, c = probeConn .gex true o := by
  have := Gex.run_inv (gexServer fsrv) (fun s tr => s.2.length = 0 + tr.length ∧ ∀ c ∈ s.2, c ∈ [] ∨ ∃ o, c = probeConn .gex true o)
    (gexServer_step fsrv 0 []) (s0, []) b ⟨rfl, fun _ hc => Or.inl hc⟩
  rw [Nat.zero_add] at this
  exact ⟨this.1, fun c hc => (this.2 c hc).resolve_left List.not_mem_nil⟩

/-- **Group-exchange phase, per offered algorithm: exactly one connection per probe, at most 9, each with at most one
    `GEX_INIT`, each closed.** -/
theorem gex_connections_bounded (fsrv : σ → Gex.Probe → (ProbeOutcome × Option Nat) × σ) (s0 : σ) (b : Bool) :
    let r := gexPhase fsrv s0 b
    r.srvSt.2.length = r.trace.length ∧ r.srvSt.2.length ≤ 9 ∧
    ∀ c ∈ r.srvSt.2, c.phase = .gex ∧ (c.sent.filter isInit).length ≤ 1 ∧ (c.connected = true → c.closed = true) := by
  obtain ⟨h1, h2⟩ := run_conns fsrv s0 b
  refine ⟨h1, by rw [h1]; exact C12.gex_probe_bound (gexServer fsrv) (s0, []) b, fun c hc => ?_⟩
  obtain ⟨o, rfl⟩ := h2 c hc
  exact ⟨rfl, probeConn_facts .gex true o⟩

theorem gex_conns_wf (fsrv : σ → Gex.Probe → (ProbeOutcome × Option Nat) × σ) (s0 : σ) (b : Bool) :
    ∀ c ∈ (gexPhase fsrv s0 b).srvSt.2, WF c := by
  intro c hc
  obtain ⟨o, rfl⟩ := (run_conns fsrv s0 b).2 c hc
  exact probeConn_wf _ _ o

/-- the probe table has 17 entries (regenerated from the source): at most 17 host-key connections -/
theorem hostkey_table_size : Gen.hostKeyTypes.length = 17 := by decide

/-- two group-exchange algorithms are known to the probe (regenerated from the source): at most 18 connections -/
theorem gex_algs_size : Gen.gexAlgs.length = 2 := by decide

/-- the group-exchange phase over all offered algorithms: at most 9 connections per offered algorithm, all well-formed -/
theorem gexAll_bounded (gexAlgs kex : List Str) (o : Bool) (l : List Str) (e : Env) (acc : List Conn) :
    (gexAll gexAlgs kex o l e acc).1.length ≤ acc.length + 9 * (l.filter (fun a => kex.contains a)).length ∧
    ∀ c ∈ (gexAll gexAlgs kex o l e acc).1, c ∈ acc ∨ WF c := by
  induction l generalizing e acc with
  | nil => exact ⟨Nat.le_add_right _ _, fun c hc => Or.inl hc⟩
  | cons a rest ih =>
    unfold gexAll
    by_cases hk : kex.contains a = true
    · simp only [if_pos hk, List.filter_cons, List.length_cons]
      have hb := (gex_connections_bounded gexFServer e o).2.1
      -- whether or not the loop goes on, this algorithm's connections join the list: at most 9, all well-formed
      have hacc : ∀ c ∈ acc ++ (gexPhase gexFServer e o).srvSt.2, c ∈ acc ∨ WF c :=
        fun c hc => (List.mem_append.mp hc).imp_right (gex_conns_wf gexFServer e o c)
      split
      · exact ⟨by rw [List.length_append]; omega, hacc⟩
      · obtain ⟨i1, i2⟩ := ih (gexPhase gexFServer e o).srvSt.1 (acc ++ (gexPhase gexFServer e o).srvSt.2)
        rw [List.length_append] at i1
        exact ⟨by omega, fun c hc => (i2 c hc).elim (hacc c) .inr⟩
    · simp only [if_neg hk, List.filter_cons]
      exact ih e acc

/-- **The probe footprint of a whole standard audit, for every target behaviour**: at most
    1 + (advertised probe types) + 9·(offered group-exchange algorithms) connections; the first carries only KEXINIT; every
    connection has one of the five message shapes, at most one key-exchange computation request, and is closed. -/
theorem audit_footprint_bounded (types rsaFamily startable gexAlgs kex keys : List Str) (o : Bool) (e : Env) :
    let cs := auditFootprint types rsaFamily startable gexAlgs kex keys o e
    cs.length ≤ 1 + (types.filter (fun t => keys.contains t)).length + 9 * (gexAlgs.filter (fun a => kex.contains a)).length ∧
    cs.length ≤ 1 + types.length + 9 * gexAlgs.length ∧
    cs.head? = some { phase := .handshake, connected := true, sent := [msgKexinit], closed := true } ∧
    ∀ c ∈ cs, WF c := by
  have h1 := hostKeyPhase_conns types rsaFamily startable gexAlgs (hkServer (viaGexOf startable gexAlgs kex)) e kex keys
  unfold auditFootprint
  generalize hostKeyPhase types rsaFamily startable gexAlgs (hkServer (viaGexOf startable gexAlgs kex)) e kex keys = hk at h1 ⊢
  obtain ⟨h2, h2w⟩ := gexAll_bounded gexAlgs kex o gexAlgs hk.srv []
  have f1 := List.length_filter_le (fun t => keys.contains t) types
  have f2 := List.length_filter_le (fun a => kex.contains a) gexAlgs
  simp only [List.length_cons, List.length_append, List.length_nil, Nat.zero_add] at h2 ⊢
  refine ⟨by omega, by omega, rfl, fun c hc => ?_⟩
  rcases List.mem_cons.mp hc with rfl | hc
  · exact hsConn_wf true
  · rcases List.mem_append.mp hc with hc | hc
    · obtain ⟨viaGex, o', rfl⟩ := h1.2 c hc
      exact probeConn_wf _ _ o'
    · exact (h2w c hc).resolve_left List.not_mem_nil

/-- with the tables regenerated from the source: at most 1 + 17 + 18 = 36 probe connections, whatever the target does -/
theorem audit_footprint_36 (kex keys : List Str) (o : Bool) (e : Env) :
    (auditFootprint (Gen.hostKeyTypes.map (·.name)) Gen.rsaFamily Gen.kexToDhgroupKeys Gen.gexAlgs kex keys o e).length ≤ 36 := by
  have := (audit_footprint_bounded (Gen.hostKeyTypes.map (·.name)) Gen.rsaFamily Gen.kexToDhgroupKeys Gen.gexAlgs kex keys o e).2.1
  rw [List.length_map, hostkey_table_size, gex_algs_size] at this
  exact this

/-- **… including the initial handshake's one retry as SSH-1**: whatever the first connection brings, the connections are
    bounded and each is well-formed; the retry happens at most once and is followed by no probe. -/
theorem audit_footprintH_bounded (h : HsOutcome) (types rsaFamily startable gexAlgs kex keys : List Str) (o : Bool) (e : Env) :
    (auditFootprintH h types rsaFamily startable gexAlgs kex keys o e).length ≤ max 2 (1 + types.length + 9 * gexAlgs.length) ∧
    (h ≠ .proceeds → (auditFootprintH h types rsaFamily startable gexAlgs kex keys o e).length ≤ 2) ∧
    ∀ c ∈ auditFootprintH h types rsaFamily startable gexAlgs kex keys o e, WF c := by
  have single : ∀ a : Conn, WF a → ∀ c ∈ [a], WF c := fun a ha c hc => List.mem_singleton.1 hc ▸ ha
  have hs : ∀ c ∈ [hsConn], WF c := single _ (hsConn_wf true)
  cases h with
  | proceeds =>
    have hb := audit_footprint_bounded types rsaFamily startable gexAlgs kex keys o e
    exact ⟨Nat.le_trans hb.2.1 (Nat.le_max_right _ _), fun h => absurd rfl h, hb.2.2.2⟩
  | versionsDiffer b rb =>
    cases b
    · exact ⟨Nat.le_trans (Nat.le_succ 1) (Nat.le_max_left _ _), fun _ => Nat.le_succ 1, hs⟩
    · exact ⟨Nat.le_max_left _ _, fun _ => Nat.le_refl _, List.forall_mem_cons.mpr ⟨hsConn_wf true, single _ (hsConn_wf rb)⟩⟩
  | ends => exact ⟨Nat.le_trans (Nat.le_succ 1) (Nat.le_max_left _ _), fun _ => Nat.le_succ 1, hs⟩

/-- with the regenerated tables: at most 36 connections before the rate check, whatever the target does -/
theorem audit_footprint_total (h : HsOutcome) (kex keys : List Str) (o : Bool) (e : Env) :
    (auditFootprintH h (Gen.hostKeyTypes.map (·.name)) Gen.rsaFamily Gen.kexToDhgroupKeys Gen.gexAlgs kex keys o e).length ≤ 36 := by
  have := (audit_footprintH_bounded h (Gen.hostKeyTypes.map (·.name)) Gen.rsaFamily Gen.kexToDhgroupKeys Gen.gexAlgs kex keys o e).1
  rw [List.length_map, hostkey_table_size, gex_algs_size] at this
  omega

example : (auditFootprint ["ssh-rsa".toList, "ssh-ed25519".toList] ["ssh-rsa".toList] ["curve25519-sha256".toList] ["gex".toList] ["curve25519-sha256".toList, "gex".toList]
    ["ssh-ed25519".toList, "ssh-rsa".toList] false { plan := [(.exchanged, true), (.exchanged, false), (.groupFail, false), (.kexFail, false)], sizeOf := fun _ => some 2048 }).length = 8 := by
  decode_literals
  decide +kernel

structure RateInv (maxConn conc : Nat) (st : RateSt) : Prop where
  attempted_le : st.attempted ≤ maxConn
  conc_le : st.openSocks ≤ conc
  maxc_le : st.maxConcurrent ≤ conc
  balance : st.openSocks + st.closedSocks ≤ st.attempted

theorem rateOpen_inv (maxConn conc : Nat) (fuel : Nat) (oks : List Bool) (st : RateSt) (h : RateInv maxConn conc st) :
    RateInv maxConn conc (rateOpen maxConn conc fuel oks st) ∧ (rateOpen maxConn conc fuel oks st).opened = st.opened
      ∧ (rateOpen maxConn conc fuel oks st).closedSocks = st.closedSocks := by
  fun_induction rateOpen maxConn conc fuel oks st
  case case1 | case3 => exact ⟨h, rfl, rfl⟩
  case case2 fuel oks st hc ok st' ih =>
    obtain ⟨h1, h2, h3, h4⟩ := h
    -- the attempt adds at most one open socket, and only below `conc`
    have hle : st'.openSocks ≤ st.openSocks + 1 := by
      show (if ok = true then st.openSocks + 1 else st.openSocks) ≤ _
      split <;> omega
    exact ih ⟨show st.attempted + 1 ≤ maxConn by omega, show st'.openSocks ≤ conc by omega,
      show max st.maxConcurrent st'.openSocks ≤ conc by omega, show st'.openSocks + st.closedSocks ≤ st.attempted + 1 by omega⟩

/-- **Rate check: at most `maxConn` (= 38) connection attempts in total, at most `conc` (= 3) open at any time, and every
    socket it opened is closed when it returns** — for every server behaviour and every clock. (D21) -/
theorem rate_bounded (maxConn conc : Nat) (iters : List RateIter) (st : RateSt) (h : RateInv maxConn conc st) :
    let r := rateLoop maxConn conc iters st
    r.attempted ≤ maxConn ∧ r.maxConcurrent ≤ conc ∧ r.openSocks = 0 ∧ r.closedSocks ≤ r.attempted := by
  -- both exits return the state with every open socket closed
  have closeAll : ∀ st : RateSt, RateInv maxConn conc st →
      let r : RateSt := { st with closedSocks := st.closedSocks + st.openSocks, openSocks := 0 }
      r.attempted ≤ maxConn ∧ r.maxConcurrent ≤ conc ∧ r.openSocks = 0 ∧ r.closedSocks ≤ r.attempted :=
    fun st h => ⟨h.attempted_le, h.maxc_le, rfl, Nat.add_comm _ _ ▸ h.balance⟩
  induction iters generalizing st with
  | nil => exact closeAll st h
  | cons it rest ih =>
    unfold rateLoop
    split
    · exact closeAll st h
    · obtain ⟨hi, -, -⟩ := rateOpen_inv maxConn conc (maxConn + 1) it.connectOk st h
      apply ih
      generalize rateOpen maxConn conc (maxConn + 1) it.connectOk st = st1 at hi ⊢
      -- `nRead ≤ openSocks` and `nExc ≤ openSocks - nRead` sockets are closed
      have hR := Nat.min_le_right it.readable.length st1.openSocks
      have hE := Nat.min_le_right it.exceptional.length (st1.openSocks - min it.readable.length st1.openSocks)
      generalize min it.readable.length st1.openSocks = nRead at hR hE ⊢
      generalize min it.exceptional.length (st1.openSocks - nRead) = nExc at hE ⊢
      obtain ⟨h1, h2, h3, h4⟩ := hi
      exact ⟨h1, show st1.openSocks - nRead - nExc ≤ conc by omega, h3,
        show st1.openSocks - nRead - nExc + (st1.closedSocks + nRead + nExc) ≤ st1.attempted by omega⟩

theorem rate_from_start (maxConn conc : Nat) (iters : List RateIter) :
    (rateLoop maxConn conc iters rateInit).attempted ≤ maxConn ∧ (rateLoop maxConn conc iters rateInit).maxConcurrent ≤ conc
      ∧ (rateLoop maxConn conc iters rateInit).openSocks = 0 := by
  obtain ⟨h1, h2, h3, -⟩ := rate_bounded maxConn conc iters rateInit ⟨Nat.zero_le _, Nat.zero_le _, Nat.zero_le _, Nat.le_refl _⟩
  exact ⟨h1, h2, h3⟩

/-- none when the check is skipped, for client audits, or when no Diffie-Hellman key exchange is offered -/
theorem rate_not_run (skip client : Bool) (kex dh : List Str) (h : skip = true ∨ client = true ∨ ∀ k ∈ kex, dh.contains k = false) :
    rateRuns skip client kex dh = false := by
  unfold rateRuns
  rcases h with h | h | h
  · simp [h]
  · simp [h]
  · rw [List.any_eq_false.mpr fun k hk => ne_true_of_eq_false (h k hk), Bool.and_false]

/-- **The denial-of-service attack and the interactive rate flood are entered only when explicitly requested** -/
theorem dos_only_on_request (r : Requested) :
    (afterKex r = .dheatAttack ↔ r.dheat = true) ∧ (afterKex r = .interactiveRateTest → r.connRateTest = true) ∧
    (r.dheat = false ∧ r.connRateTest = false → afterKex r = .standardProbes) := by
  unfold afterKex
  cases r.dheat <;> cases r.connRateTest <;> simp

example : (rateLoop 38 3 (List.replicate 100 { timeUp := false, connectOk := [], readable := [(0, false), (1, false), (2, false)], exceptional := [] }) rateInit).attempted = 38 := by decide +kernel
example : (rateLoop 38 3 [{ timeUp := false, connectOk := [], readable := [(0, true)], exceptional := [1] }, { timeUp := true, connectOk := [], readable := [], exceptional := [] }] rateInit).closedSocks = 3 := by decide +kernel

end SshAudit.C19
