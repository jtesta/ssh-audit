/-
  Regenerated logic against the hand-written model, third unit: procedures (`Gen/Logic3.lean`; scheme: `GenLogic.lean`).

  `Gen.Logic.gex_probe` is the probing part of `GEXTest.run` for one group-exchange algorithm: the calls of `GEXTest._send_init` are a
  parameter `ext_send_init : σ → Int → Int → Int → (Int × Bool) × σ` over an abstract connection state σ threaded through the statements
  in execution order, and the `break` that leaves the per-algorithm body is the result `none`.  `gex_probe_eq_model` says that for every
  server `srv : σ → Probe → Resp × σ` this is `Gex.run srv`: same final server state (hence the same probes in the same order —
  instantiate σ with a logging state), same measured size, follow-up flag and stop.  `gex_rate` is the block that edits the database
  entry; the `policy_check_*` are the list checks of `Policy.evaluate` with `self._append_error` as the external call.

  Equations whose left side follows the generated text of a straight-line expression: `isOpenSSH_py`, `encSize_eq_2048`,
  `encSize_updated`, `replaceFails_py`, `addWarn_py`, `addInfo_py`.
-/
import SshAudit.Gen.Logic3
import SshAudit.Lemmas.Py
import SshAudit.Lemmas.Gex
import SshAudit.Lemmas.Text
import SshAudit.Model.Policy
set_option linter.unusedSimpArgs false
namespace SshAudit.GenLogic
open SshAudit

/-- what `_send_init` returns for an answer of the model's server: the size (−1 for none) and `reconnect_failed` -/
def encResp (r : Gex.Resp) : Int × Bool := (encSize r.bits, r.reconnectFailed)

/-- `GEXTest._send_init(…, min, pref, max)` against the model's server -/
def extOf {σ : Type} (srv : σ → Gex.Probe → Gex.Resp × σ) : σ → Int → Int → Int → (Int × Bool) × σ :=
  fun st a b c => (encResp (srv st (a.toNat, b.toNat, c.toNat)).1, (srv st (a.toNat, b.toNat, c.toNat)).2)

/-- `banner is not None and banner.software is not None and banner.software.find('OpenSSH') != -1` -/
def isOpenSSH (present : Bool) (software : Option Str) : Bool :=
  present && (match software with | some s => Text.hasSub "OpenSSH".toList s | none => false)

/-- one pass of the generated probe loop, with projections for its `let`s; `loop_fold` asks of the generated body only that it equals this -/
def loopStep {σ : Type} (ext : σ → Int → Int → Int → (Int × Bool) × σ) (acc : Bool × Int × Bool × σ) (bits : Int) : Bool × Int × Bool × σ :=
  if acc.1 then acc
  else if decide (bits ≥ acc.2.1) && decide (acc.2.1 > 0) then (true, acc.2.1, acc.2.2.1, acc.2.2.2)
  else (false, (ext acc.2.2.2 bits bits bits).1.1, (ext acc.2.2.2 bits bits bits).1.2, (ext acc.2.2.2 bits bits bits).2)

/-- the state of the fold that corresponds to a state of `Gex.loop` (the done flag is not part of the correspondence) -/
def accOf {σ : Type} (st : Gex.LoopSt σ) : Int × Bool × σ := (encSize st.smallest, st.reconnectFailed, st.srvSt)

theorem loopStep_accOf {σ : Type} (srv : σ → Gex.Probe → Gex.Resp × σ) (b : Nat) (st : Gex.LoopSt σ) :
    loopStep (extOf srv) (false, accOf st) (Int.ofNat b) =
      if Gex.breaks b st.smallest then (true, accOf st) else (false, accOf (Gex.probe srv b st)) := by
  cases hs : st.smallest with
  | none => simp [loopStep, accOf, hs, encSize, extOf, encResp, Gex.breaks, Gex.probe]
  | some s =>
    have : ((b : Int) ≥ (s : Int) ∧ (s : Int) > 0) ↔ (b ≥ s ∧ s > 0) := by omega
    by_cases hc : b ≥ s ∧ s > 0 <;> simp [loopStep, accOf, hs, encSize, extOf, encResp, Gex.breaks, Gex.probe, this, hc]

theorem loop_fold {σ : Type} (srv : σ → Gex.Probe → Gex.Resp × σ) {F : Bool × Int × Bool × σ → Int → Bool × Int × Bool × σ}
    (hF : ∀ acc bits, F acc bits = loopStep (extOf srv) acc bits) (bs : List Nat) (s : σ) (sm : Option Nat) (rf : Bool)
    (tr : List (Gex.Probe × Gex.Resp)) :
    (List.foldl F (false, encSize sm, rf, s) (bs.map Int.ofNat)).2 = accOf (Gex.loop srv bs ⟨s, sm, rf, tr⟩) := by
  obtain rfl : F = loopStep (extOf srv) := funext fun acc => funext (hF acc)
  induction bs generalizing s sm rf tr with
  | nil => rfl
  | cons b bs ih =>
    rw [List.map_cons, List.foldl_cons, Gex.loop_cons]
    show (List.foldl _ (loopStep (extOf srv) (false, accOf ⟨s, sm, rf, tr⟩) (Int.ofNat b)) _).2 = _
    rw [loopStep_accOf]
    split
    · rw [Py.foldl_fixed (fun _ => rfl)]
    · exact ih _ _ _ _

theorem schedule_lit : ([(512 : Int), 768, 1024, 1536, 2048, 3072, 4096] : List Int) = Gex.schedule.map Int.ofNat := by decide

/-- the size `Gex.run` ends with before it discards a non-positive one (`reported = positive finalBits`) -/
def finalBits {σ : Type} (srv : σ → Gex.Probe → Gex.Resp × σ) (s0 : σ) (openssh : Bool) : Option Nat :=
  let L := Gex.loop srv Gex.schedule
    { srvSt := (srv s0 Gex.firstProbe).2, smallest := (srv s0 Gex.firstProbe).1.bits, reconnectFailed := false,
      trace := [(Gex.firstProbe, (srv s0 Gex.firstProbe).1)] }
  if L.smallest = some 2048 ∧ openssh then (srv L.srvSt Gex.secondPassProbe).1.bits else L.smallest

/-- the only statement that ties `finalBits`, which `gex_probe_eq_model` reports, to `Gex.run` -/
theorem run_reported {σ : Type} (srv : σ → Gex.Probe → Gex.Resp × σ) (s0 : σ) (openssh : Bool)
    (h : (srv s0 Gex.firstProbe).1.reconnectFailed = false) :
    (Gex.run srv s0 openssh).reported = Gex.positive (finalBits srv s0 openssh) := by
  simp only [Gex.run, finalBits, h, Bool.false_eq_true, if_false]
  generalize Gex.loop srv Gex.schedule _ = L
  by_cases hc : L.smallest = some 2048 ∧ openssh = true <;> simp [hc]

/-- `GEXTest.run`'s probing part, as read from the source, is `Gex.run` for every server: when the first connection cannot be made the
    per-algorithm body is left by `break` … -/
theorem gex_probe_eq_model_stop {σ : Type} (srv : σ → Gex.Probe → Gex.Resp × σ) (s0 : σ) (present : Bool) (software : Option Str)
    (h : (srv s0 Gex.firstProbe).1.reconnectFailed = true) :
    Gen.Logic.gex_probe (extOf srv) s0 present software = (none, (Gex.run srv s0 (isOpenSSH present software)).srvSt)
      ∧ (Gex.run srv s0 (isOpenSSH present software)).stop = true ∧ (Gex.run srv s0 (isOpenSSH present software)).reported = none := by
  have h0 : extOf srv s0 512 1024 1536 = (encResp (srv s0 Gex.firstProbe).1, (srv s0 Gex.firstProbe).2) := rfl
  simp only [Gen.Logic.gex_probe, Gex.run, h0, encResp, h, if_true, and_self]

theorem encSize_eq_2048 (o : Option Nat) : (encSize o == 2048) = decide (o = some 2048) := by
  cases o <;> simp only [encSize] <;> grind

/-- `openssh_test_updated`: a positive size other than 2048 -/
theorem encSize_updated (n : Nat) : (decide (encSize (some n) > 0) && (encSize (some n) != 2048)) = decide (n > 0 ∧ n ≠ 2048) := by
  simp only [encSize]
  grind

theorem isOpenSSH_py (present : Bool) (sw : Str) :
    (present && (Py.find sw ['O', 'p', 'e', 'n', 'S', 'S', 'H'] != -1)) = isOpenSSH present (some sw) := by
  unfold isOpenSSH
  decode_literals
  rw [Py.find_ne_neg_one]

/-- … and otherwise it ends with the model's size (−1 for none), stop flag, follow-up flag and server state -/
theorem gex_probe_eq_model {σ : Type} (srv : σ → Gex.Probe → Gex.Resp × σ) (s0 : σ) (present : Bool) (software : Option Str)
    (h : (srv s0 Gex.firstProbe).1.reconnectFailed = false) :
    Gen.Logic.gex_probe (extOf srv) s0 present software =
      (some (encSize (finalBits srv s0 (isOpenSSH present software)), (Gex.run srv s0 (isOpenSSH present software)).stop,
             (Gex.run srv s0 (isOpenSSH present software)).fallbackNote),
       (Gex.run srv s0 (isOpenSSH present software)).srvSt) := by
  have h0 : extOf srv s0 512 1024 1536 = (encResp (srv s0 Gex.firstProbe).1, (srv s0 Gex.firstProbe).2) := rfl
  simp only [Gen.Logic.gex_probe, Gex.run, finalBits, h0, encResp, h, Bool.false_eq_true, if_false]
  rw [schedule_lit, loop_fold srv ?hF Gex.schedule _ _ false [(Gex.firstProbe, (srv s0 Gex.firstProbe).1)]]
  -- the hypothesis of `loop_fold`: the generated loop body is the pass `loopStep`, by unfolding
  case hF => exact fun _ _ => rfl
  simp only [accOf, encSize_eq_2048]
  generalize Gex.loop srv Gex.schedule _ = L
  have h2 : extOf srv L.srvSt 2048 3072 4096 = (encResp (srv L.srvSt Gex.secondPassProbe).1, (srv L.srvSt Gex.secondPassProbe).2) := rfl
  cases software with
  | none => simp [isOpenSSH]
  | some sw =>
    simp only [isOpenSSH_py]
    by_cases hc : L.smallest = some 2048 ∧ isOpenSSH present (some sw) = true
    · simp only [hc, h2, encResp, decide_true, Bool.and_self, and_self, if_true]
      cases (srv L.srvSt Gex.secondPassProbe).1.bits with
      | none => rfl
      | some n => simp only [encSize_updated]
    · rcases Classical.not_and_iff_not_or_not.mp hc with h1 | h1 <;> simp [h1]

theorem gex_report_guard_eq_model (sm : Option Nat) : Gen.Logic.gex_report_guard (encSize sm) = (Gex.positive sm).isSome := by
  cases sm <;> simp only [Gen.Logic.gex_report_guard, encSize, Gex.positive] <;> grind

theorem gexSmallText_lit (n : Nat) : Gex.smallText n = ['u', 's', 'i', 'n', 'g', ' ', 's', 'm', 'a', 'l', 'l', ' '] ++ Text.natToStr n ++ ['-', 'b', 'i', 't', ' ', 'm', 'o', 'd', 'u', 'l', 'u', 's'] := by
  simp [Gex.smallText, Gex.s]
theorem gexWarn_lit : Gex.warn2048 = ['2', '0', '4', '8', '-', 'b', 'i', 't', ' ', 'm', 'o', 'd', 'u', 'l', 'u', 's', ' ', 'o', 'n', 'l', 'y', ' ', 'p', 'r', 'o', 'v', 'i', 'd', 'e', 's', ' ', '1', '1', '2', '-', 'b', 'i', 't', 's', ' ', 'o', 'f', ' ', 's', 'y', 'm', 'm', 'e', 't', 'r', 'i', 'c', ' ', 's', 't', 'r', 'e', 'n', 'g', 't', 'h'] := String.toList_ofList
theorem gexFallback_lit (n : Nat) : Gex.fallbackText n = "OpenSSH's GEX fallback mechanism was triggered during testing. Very old SSH clients will still be able to create connections using a 2048-bit modulus, though modern clients will use ".toList ++ Text.natToStr n ++ ". This can only be disabled by recompiling the code (see https://github.com/openssh/openssh-portable/blob/V_9_4/dh.c#L477).".toList := rfl
seal Gex.smallText Gex.warn2048 Gex.fallbackText Text.natToStr

/-- `if len(lst) == 1: lst.append([text]) else: del lst[1]; lst.insert(1, [text])` on an entry that has its versions list -/
theorem replaceFails_py (t : Str) (d : List (List (Option Str))) (hd : d ≠ []) :
    (if (Int.ofNat d.length == 1) then some (d ++ [[some t]])
     else (Py.delItem d 1).bind fun l => some (Py.insert l 1 [some t])) = some (Gex.replaceFails t d) := by
  match d, hd with
  | [v], _ => rfl
  | v :: f :: rest, _ =>
    have e : (Int.ofNat (v :: f :: rest).length == 1) = false := by
      simp only [List.length_cons, beq_eq_false_iff_ne, ne_eq, Int.ofNat_eq_natCast]
      omega
    rw [e]
    rfl

/-- `while len(lst) < 3: lst.append([])` then `if text not in lst[2]: lst[2].append(text)` -/
theorem addWarn_py (t : Str) (d : List (List (Option Str))) :
    ((Py.getItem (Py.padTo d 3 []) 2).bind fun t1 =>
      if (!(t1.contains (some t))) then
        (Py.getItem (Py.padTo d 3 []) 2).bind fun t2 => (Py.setItem (Py.padTo d 3 []) 2 (t2 ++ [some t])).bind fun l => some l
      else some (Py.padTo d 3 [])) = some (Gex.addWarn t d) := by
  match d with
  | [] => rfl
  | [v] => rfl
  | [v, f] => rfl
  | v :: f :: w :: rest =>
    rw [Py.padTo_of_le _ (by simp only [List.length_cons]; omega)]
    show (if (!(w.contains (some t))) then some (v :: f :: (w ++ [some t]) :: rest) else some (v :: f :: w :: rest)) = some (v :: f :: Gex.addTo t w :: rest)
    unfold Gex.addTo
    cases w.contains (some t) <;> rfl

/-- `while len(lst) < 4: lst.append([])` then `if text not in lst[3]: lst[3].append(text)` -/
theorem addInfo_py (t : Str) (d : List (List (Option Str))) :
    ((Py.getItem (Py.padTo d 4 []) 3).bind fun t1 =>
      if (!(t1.contains (some t))) then
        (Py.getItem (Py.padTo d 4 []) 3).bind fun t2 => (Py.setItem (Py.padTo d 4 []) 3 (t2 ++ [some t])).bind fun l => some l
      else some (Py.padTo d 4 [])) = some (Gex.addInfo t d) := by
  match d with
  | [] => rfl
  | [v] => rfl
  | [v, f] => rfl
  | [v, f, w] => rfl
  | v :: f :: w :: i :: rest =>
    rw [Py.padTo_of_le _ (by simp only [List.length_cons]; omega)]
    show (if (!(i.contains (some t))) then some (v :: f :: w :: (i ++ [some t]) :: rest) else some (v :: f :: w :: i :: rest)) = some (v :: f :: w :: Gex.addTo t i :: rest)
    unfold Gex.addTo
    cases i.contains (some t) <;> rfl

/-- the edits `GEXTest.run` makes to the database entry of the algorithm once a positive size was measured (every entry has its versions
    list, so `d ≠ []`) are `Gex.rate` -/
theorem gex_rate_eq_model (d : List (List (Option Str))) (hd : d ≠ []) (n : Nat) (upd : Bool) :
    Gen.Logic.gex_rate d (n : Int) upd = some (Gex.rate d n upd) := by
  have c1 : decide ((n : Int) < 2048) = decide (n < 2048) := decide_eq_decide.2 (by omega)
  have c2 : decide ((n : Int) < 3072) = decide (n < 3072) := decide_eq_decide.2 (by omega)
  simp only [Gen.Logic.gex_rate, Py.fmtD_natCast, ← gexSmallText_lit, ← gexWarn_lit, -String.reduceToList]
  rw [← gexFallback_lit]
  simp only [replaceFails_py _ d hd, addWarn_py, addInfo_py, c1, c2, Gex.rate, Gex.rateSize]
  by_cases h1 : n < 2048
  · cases upd <;> simp only [h1, decide_true, if_true, Option.bind_some, Bool.false_eq_true, if_false]
  · by_cases h2 : n < 3072 <;> cases upd <;>
      simp only [h1, h2, decide_true, decide_false, if_true, Option.bind_some, Bool.false_eq_true, if_false]

/-! ### policy.py `Policy.evaluate` (C06): the list checks, with `self._append_error` as the external call -/

/-- `self._append_error(field, required, optional, actual)` on the model's error list -/
def appendErr (st : List Pol.PErr) (f : Str) (req : List Str) (opt : Option (List Str)) (act : List Str) : List Pol.PErr :=
  st ++ [{ field := f, expectedRequired := req, expectedOptional := opt.getD [[]], actual := act }]

/-- `for x in actual: if x not in pol: ret = False; self._append_error(…); break` -/
theorem subset_check {F : Bool × Pol.St → Str → Bool × Pol.St} {field : Str} {pol act : List Str} {opt : Option (List Str)}
    (hF : ∀ acc x, F acc x =
      if acc.1 = true then acc else if (!pol.contains x) = true then (true, false, appendErr acc.2.2 field pol opt act) else (false, acc.2))
    (st : Pol.St) (l : List Str) :
    (List.foldl F (false, st) l).2 = Pol.stepIf (l.any (fun x => !pol.contains x)) st field pol opt act := by
  induction l with
  | nil => rfl
  | cons a as ih =>
    rw [List.foldl_cons, List.any_cons, hF]
    cases h : pol.contains a with
    | true => exact ih
    | false =>
      -- once the flag is set the loop only passes the state on
      have hdone : ∀ b : Bool × Pol.St, b.1 = true → List.foldl F b as = b :=
        fun b hb => Py.foldl_fixed (fun x => by rw [hF, if_pos hb]) as
      exact congrArg Prod.snd (hdone _ rfl)

/-- the list check of `Policy.evaluate` for every field: in subset mode that loop, otherwise one comparison -/
theorem list_check {F : Bool × Pol.St → Str → Bool × Pol.St} {field : Str} {pol actual : List Str} {opt : Option (List Str)}
    (hF : ∀ acc x, F acc x =
      if acc.1 = true then acc else if (!pol.contains x) = true then (true, false, appendErr acc.2.2 field pol opt actual) else (false, acc.2))
    (st : Pol.St) (compared : List Str) (subset : Bool) :
    (if subset = true then (List.foldl F (false, st) actual).2
      else if (compared != pol) = true then (false, appendErr st.2 field pol opt actual) else st)
      = Pol.stepIf (Pol.listBad subset pol actual compared) st field pol opt actual := by
  cases subset
  · rfl
  · exact subset_check hF st actual

/-- the cipher check of `Policy.evaluate`, as read from the source, is `Pol.stCiphers` -/
theorem policy_check_ciphers_eq_model (p : Pol.Policy) (peer : Pol.Peer) (st : Pol.St) :
    Gen.Logic.policy_check_ciphers appendErr st.2 st.1 p.ciphers p.allowSubset peer.enc =
      (some (Pol.stCiphers p peer st).1, (Pol.stCiphers p peer st).2) := by
  simp only [Gen.Logic.policy_check_ciphers, Pol.stCiphers, Pol.s, Prod.eta]
  decode_literals
  cases p.ciphers with
  | none => rfl
  | some c =>
    dsimp only
    rw [list_check ?hF]
    -- the hypothesis of `list_check`: the generated loop body is its pass, by unfolding
    case hF => exact fun _ _ => rfl

/-- the MAC check is `Pol.stMacs` -/
theorem policy_check_macs_eq_model (p : Pol.Policy) (peer : Pol.Peer) (st : Pol.St) :
    Gen.Logic.policy_check_macs appendErr st.2 st.1 p.macs p.allowSubset peer.mac =
      (some (Pol.stMacs p peer st).1, (Pol.stMacs p peer st).2) := by
  simp only [Gen.Logic.policy_check_macs, Pol.stMacs, Pol.s, Prod.eta]
  decode_literals
  cases p.macs with
  | none => rfl
  | some c =>
    dsimp only
    rw [list_check ?hF]
    -- the hypothesis of `list_check`: the generated loop body is its pass, by unfolding
    case hF => exact fun _ _ => rfl

/-- the key-exchange check — subset mode with the strict-key-exchange markers staying mandatory, exact mode otherwise — is `Pol.stKex` -/
theorem policy_check_kex_eq_model (p : Pol.Policy) (peer : Pol.Peer) (st : Pol.St) :
    Gen.Logic.policy_check_kex appendErr st.2 st.1 p.kex p.allowSubset peer.kex =
      (some (Pol.stKex p peer st).1, (Pol.stKex p peer st).2) := by
  simp only [Gen.Logic.policy_check_kex, Pol.stKex, Pol.markerBad, Pol.strictS, Pol.strictC, Pol.s, Prod.eta]
  decode_literals
  cases p.kex with
  | none => rfl
  | some c =>
    cases p.allowSubset
    · rfl
    · -- the source tests the markers after the loop, on its result: the second `stepIf` of the model
      dsimp only
      rw [if_pos rfl, subset_check ?hF]
      -- the hypothesis of `subset_check`: the generated loop body is its pass, by unfolding
      case hF => exact fun _ _ => rfl
      rfl

/-- the compression check is `Pol.stComp` -/
theorem policy_check_compression_eq_model (p : Pol.Policy) (peer : Pol.Peer) (st : Pol.St) :
    Gen.Logic.policy_check_compression appendErr st.2 st.1 p.compressions peer.comp =
      (some (Pol.stComp p peer st).1, (Pol.stComp p peer st).2) := by
  simp only [Gen.Logic.policy_check_compression, Pol.stComp, Pol.s]
  decode_literals
  cases p.compressions with
  | none => rfl
  | some c => simp [Pol.stepIf, Pol.failWith, appendErr]

/-- the host-key check — the policy's optional host keys removed from the peer's list before an exact comparison, the whole list in
    subset mode — is `Pol.stHostKeys` -/
theorem policy_check_hostkeys_eq_model (p : Pol.Policy) (peer : Pol.Peer) (st : Pol.St) :
    Gen.Logic.policy_check_hostkeys appendErr st.2 st.1 p.hostKeys p.optionalHostKeys p.allowSubset peer.key =
      (some (Pol.stHostKeys p peer st).1, (Pol.stHostKeys p peer st).2) := by
  simp only [Gen.Logic.policy_check_hostkeys, Pol.stHostKeys, Pol.prunedKeys, Pol.s, Prod.eta]
  decode_literals
  cases p.hostKeys with
  | none => rfl
  | some c =>
    dsimp only
    rw [list_check ?hF]
    -- the hypothesis of `list_check`: the generated loop body is its pass, by unfolding
    case hF => exact fun _ _ => rfl
    cases p.optionalHostKeys <;> rfl

end SshAudit.GenLogic
