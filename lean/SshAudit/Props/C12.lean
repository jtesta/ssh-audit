/-
  C12 — Group-exchange modulus size is measured and rated correctly.

  Model: SshAudit.Model.Gex (`Gex.run`, `Gex.rate`).  General theorems quantify over *every*
  server (an arbitrary state machine answering probes); the family theorem enumerates the
  property's whole quantifier (all 512 moduli sets × 3 selection styles × OpenSSH/other) in the kernel.
-/
import SshAudit.Lemmas.Gex
namespace SshAudit.C12
open SshAudit SshAudit.Gex

variable {σ : Type}

/-- `smallest_modulus` and `reconnect_failed` are the answer to the most recent probe (one assignment of `Gex.probe` sets both);
    `loop_lastIs` states the `smallest_modulus` half, the one `reported_is_last_answer` uses -/
def LastIs (st : LoopSt σ) : Prop := ∃ p r, st.trace.getLast? = some (p, r) ∧ st.smallest = r.bits ∧ st.reconnectFailed = r.reconnectFailed

theorem loop_lastIs (srv : σ → Probe → Resp × σ) (bs : List Nat) (st : LoopSt σ)
    (h : ∃ p r, st.trace.getLast? = some (p, r) ∧ st.smallest = r.bits) :
    ∃ p r, (loop srv bs st).trace.getLast? = some (p, r) ∧ (loop srv bs st).smallest = r.bits :=
  loop_ind srv (fun st => ∃ p r, st.trace.getLast? = some (p, r) ∧ st.smallest = r.bits)
    (fun _ _ _ => ⟨_, _, List.getLast?_concat .., rfl⟩) bs st h

theorem loop_trace_prefix (srv : σ → Probe → Resp × σ) (bs : List Nat) (st : LoopSt σ) :
    ∃ l, (loop srv bs st).trace = st.trace ++ l ∧ l.length ≤ bs.length := by
  obtain ⟨l, hl, hn, -⟩ := loop_trace srv bs st
  exact ⟨l, hl, hn⟩

/-- **The reported size is always the (positive) answer to the last probe sent** — for every server. -/
theorem reported_is_last_answer (srv : σ → Probe → Resp × σ) (s0 : σ) (b : Bool) :
    ∃ p r, (run srv s0 b).trace.getLast? = some (p, r) ∧ (run srv s0 b).reported = positive r.bits := by
  fun_cases run srv s0 b
  case case1 =>
    -- the answer that sets `reconnect_failed` carries no size
    have nosize : ∀ r : Resp, r.reconnectFailed = true → positive r.bits = none
      | .noReconnect, _ => rfl
    exact ⟨_, _, rfl, (nosize _ ‹_›).symm⟩
  case case2 => exact ⟨_, _, List.getLast?_concat .., rfl⟩
  case case3 =>
    -- the loop starts from `start srv s0`, written here with the two halves of the first answer
    have hl := loop_lastIs srv schedule (start srv s0) ⟨firstProbe, _, rfl, rfl⟩
    rw [start, ‹srv s0 firstProbe = _›] at hl
    obtain ⟨p, r, h1, h2⟩ := hl
    exact ⟨p, r, h1, congrArg positive h2⟩

/-- **No invention**: a reported size was handed out by the server in answer to one of the probes. -/
theorem gex_no_invention (srv : σ → Probe → Resp × σ) (s0 : σ) (b : Bool) (n : Nat)
    (h : (run srv s0 b).reported = some n) : ∃ pr ∈ (run srv s0 b).trace, pr.2 = Resp.size n ∧ n > 0 := by
  obtain ⟨p, r, hl, hr⟩ := reported_is_last_answer srv s0 b
  obtain ⟨hb, hn⟩ := positive_eq_some.mp (hr.symm.trans h)
  exact ⟨(p, r), List.mem_of_getLast? hl, bits_eq_some.mp hb, hn⟩

/-- **A server that refuses, stalls or answers garbage gets no size rather than a wrong one.** -/
theorem gex_garbage_none (srv : σ → Probe → Resp × σ) (s0 : σ) (b : Bool)
    (h : ∀ pr ∈ (run srv s0 b).trace, positive pr.2.bits = none) : (run srv s0 b).reported = none := by
  obtain ⟨p, r, hl, hr⟩ := reported_is_last_answer srv s0 b
  rw [hr]; exact h (p, r) (List.mem_of_getLast? hl)

/-- **At most 1 + 7 + 1 probes per algorithm**, whatever the server does. -/
theorem gex_probe_bound (srv : σ → Probe → Resp × σ) (s0 : σ) (b : Bool) : (run srv s0 b).trace.length ≤ 9 := by
  obtain ⟨l, t, h, hn, -, ht⟩ := run_trace srv s0 b
  have ht1 : t.length ≤ 1 := by rcases ht with rfl | ⟨-, r, rfl⟩ <;> simp
  rw [h, List.length_append, List.length_cons]
  omega

/-- the first request is always (512, 1024, 1536) -/
theorem gex_first_probe (srv : σ → Probe → Resp × σ) (s0 : σ) (b : Bool) : ((run srv s0 b).trace.head?).map (·.1) = some firstProbe := by
  obtain ⟨l, t, h, -⟩ := run_trace srv s0 b
  rw [h]
  rfl

/-- **The follow-up (2048, 3072, 4096) request goes to OpenSSH servers only**, whatever the server does: the first
    request and the exact-size probes of the loop differ from it. -/
theorem second_pass_openssh (srv : σ → Probe → Resp × σ) (s0 : σ) (b : Bool)
    (h : secondPassProbe ∈ (run srv s0 b).trace.map (·.1)) : b = true := by
  obtain ⟨l, t, ht, -, hp, hb⟩ := run_trace srv s0 b
  obtain ⟨pr, hpr, he⟩ := List.mem_map.mp h
  rw [ht] at hpr
  rcases List.mem_append.mp hpr with hpr | hpr
  · rcases List.mem_cons.mp hpr with rfl | hpr
    · cases he
    · obtain ⟨k, hk⟩ := hp pr hpr
      rw [hk] at he
      cases he
  · rcases hb with rfl | ⟨hb, -⟩
    · cases hpr
    · exact hb

def styles : List (List Nat → Unit → Probe → Resp × Unit) := [strict, roundUp, opensshStyle]

/-- expected result per the statement: the smallest modulus handed out across the probe sequence —
    except for OpenSSH servers whose first pass ends at 2048, where it is the answer to the
    follow-up (2048, 3072, 4096) probe -/
def expected (srv : Unit → Probe → Resp × Unit) (isOpenSSH : Bool) : Option Nat × Bool :=
  let res := run srv () isOpenSSH
  let answers := (res.trace.filterMap (·.2.bits)).filter (· > 0)
  match res.trace.getLast? with
  | some (p, r) =>
    if p = secondPassProbe ∧ isOpenSSH then (positive r.bits, match r.bits with | some n => decide (n > 0 ∧ n ≠ 2048) | none => false)
    else (minOpt answers, false)
  | none => (none, false)

theorem gex_min_families :
    ∀ M ∈ subsets moduliUniverse, ∀ style ∈ styles, ∀ b ∈ [true, false],
      ((run (style M) () b).reported, (run (style M) () b).fallbackNote) = expected (style M) b := by
  decide +kernel

/-- in these families, as for every server (`second_pass_openssh`), the second-pass probe is sent to an OpenSSH server only -/
theorem gex_second_pass_iff :
    ∀ M ∈ subsets moduliUniverse, ∀ style ∈ styles, ∀ b ∈ [true, false],
      (((run (style M) () b).trace.map (·.1)).contains secondPassProbe = true → b = true) :=
  fun M _ style _ b _ h => second_pass_openssh (style M) () b (List.contains_iff_mem.mp h)

/-- below 2048 bits the failure list of the entry is *replaced* by the small-modulus failure -/
theorem rate_small (d : List (List (Option Str))) (size : Nat) (h : size < 2048) (hd : d ≠ []) :
    (rateSize d size).getD 1 [] = [some (smallText size)] ∧ (rateSize d size).getD 2 [] = d.getD 2 [] := by
  unfold rateSize
  rw [if_pos h]
  match d, hd with
  | [_], _ | _ :: _ :: _, _ => exact ⟨rfl, rfl⟩

/-- from 2048 up to but excluding 3072: the 2048-bit warning is present, failures untouched, and a
    second scan of the same entry adds nothing (warned once) -/
theorem rate_mid (d : List (List (Option Str))) (size : Nat) (h1 : 2048 ≤ size) (h2 : size < 3072) :
    (some warn2048) ∈ (rateSize d size).getD 2 [] ∧ (rateSize d size).getD 1 [] = d.getD 1 []
      ∧ rateSize (rateSize d size) size = rateSize d size := by
  simp only [rateSize, Nat.not_lt.mpr h1, h2, if_false, if_true]
  exact ⟨(getD_addWarn warn2048 d).1 ▸ mem_addTo _ _, (getD_addWarn warn2048 d).2, addWarn_idem _ d⟩

/-- from 3072 bits the entry is left alone -/
theorem rate_large (d : List (List (Option Str))) (size : Nat) (h : 3072 ≤ size) : rateSize d size = d := by
  rw [rateSize, if_neg (Nat.not_lt.mpr (Nat.le_trans (by decide) h)), if_neg (Nat.not_lt.mpr h)]

/-- the explanatory note goes to the info slot and leaves failures and warnings alone -/
theorem rate_fallback (d : List (List (Option Str))) (size : Nat) :
    (some (fallbackText size)) ∈ (rate d size true).getD 3 [] ∧ (rate d size true).getD 1 [] = (rateSize d size).getD 1 []
      ∧ (rate d size true).getD 2 [] = (rateSize d size).getD 2 [] ∧ rate d size false = rateSize d size := by
  unfold rate
  simp only [if_true]
  obtain ⟨h3, h1, h2⟩ := getD_addInfo (fallbackText size) (rateSize d size)
  exact ⟨h3 ▸ mem_addTo _ _, h1, h2, rfl⟩

/-- **The rating never gets worse as the modulus grows.** -/
theorem rating_antitone (a b : Nat) (h : a ≤ b) : sizeSeverity b ≤ sizeSeverity a := by
  unfold sizeSeverity
  -- a threshold that `b` is below, the smaller `a` is below too
  by_cases h1 : b < 2048
  · simp [h1, Nat.lt_of_le_of_lt h h1]
  · by_cases h2 : b < 3072
    · simp only [h1, h2, Nat.lt_of_le_of_lt h h2, if_true, if_false]
      split <;> decide
    · simp [h1, h2]

theorem severity_thresholds (n : Nat) :
    (sizeSeverity n = 2 ↔ n < 2048) ∧ (sizeSeverity n = 1 ↔ 2048 ≤ n ∧ n < 3072) ∧ (sizeSeverity n = 0 ↔ 3072 ≤ n) := by
  unfold sizeSeverity
  by_cases h1 : n < 2048 <;> by_cases h2 : n < 3072 <;> simp [h1, h2] <;> omega

example : (run (opensshStyle [3072, 4096]) () true).reported = some 3072 ∧ (run (opensshStyle [3072, 4096]) () true).fallbackNote = true := by decide +kernel
example : (run (strict [512, 1024]) () false).reported = some 512 := by decide +kernel
example : (run (roundUp [512, 2048]) () false).reported = some 512 := by decide +kernel
example : (rate [[some (s "4.4")], [some (s "x")], [some (s "w")]] 1024 false).getD 1 [] = [some (smallText 1024)] := rfl
example : rate [[some (s "4.4")]] 2048 true = [[some (s "4.4")], [], [some warn2048], [some (fallbackText 2048)]] := rfl

end SshAudit.C12
