/-
  C15 (extension) — the JSON document of a standard audit: `json.dumps(build_struct(…), indent=4 if -jj else None, sort_keys=True)`,
  with CPython's `json.dumps` (`ensure_ascii`, both layouts) and the tree `build_struct` builds modelled exactly (`Model/JsonDoc.lean`)
  and read back by the modelled `json.loads`.  What is printed parses to the value with the keys of every dict sorted; the theorems
  about the fields of the document speak of the value as `build_struct` builds it, before sorting.
-/
import SshAudit.Lemmas.JsonDoc
import SshAudit.Props.C15
import SshAudit.Props.C03
namespace SshAudit.C15JsonDoc
open SshAudit SshAudit.JsonDoc SshAudit.PolicyFile.Json

/-- **every value, every white-space layout: the text is one JSON document and reads back as the value with its keys sorted** -/
theorem loads_dumps (fm : Fmt) (hfm : fm.Ws) (v : Val) : loads (dumps fm v) = .ok (toJV (sortKeys v)) :=
  loads_render fm hfm (sortKeys v)

/-- `-j`: `json.loads(json.dumps(v, sort_keys=True))` -/
theorem loads_compact (v : Val) : loads (dumpsCompact v) = .ok (toJV (sortKeys v)) := loads_dumps compact compact_ws v

/-- `-jj`: `json.loads(json.dumps(v, indent=4, sort_keys=True))` -/
theorem loads_indented (v : Val) : loads (dumpsIndented v) = .ok (toJV (sortKeys v)) := loads_dumps indent4 indent4_ws v

/-- **the compact and the indented form parse to the same value** -/
theorem compact_indented_same_value (v : Val) :
    loads (dumpsCompact v) = loads (dumpsIndented v) ∧ ∃ j, loads (dumpsCompact v) = .ok j := by
  rw [loads_compact, loads_indented]; exact ⟨rfl, _, rfl⟩

/-- sorting keeps the items of a dict … -/
theorem sorted_items_perm (kvs : List (Str × Val)) : (sortKV kvs).Perm kvs := sortKV_perm kvs

/-- … and lists them in ascending key order at every level (strictly: a Python dict holds a key once) -/
theorem sorted_keys_ascending (v : Val) (h : v.NoDup) : KeysAscending (sortKeys v) := (sortKeys_spec v h).2

theorem sorted_keys_top (kvs : List (Str × Val)) (h : (kvs.map (·.1)).Nodup) :
    ∃ l, sortKeys (.obj kvs) = .obj l ∧ l.Pairwise (fun a b => Text.ltStr a.1 b.1 = true) ∧ (l.map (·.1)).Perm (kvs.map (·.1)) :=
  ⟨sortKV (sortKeysM kvs), by rw [sortKeys], sortKV_strict _ (by rw [sortKeysM_keys]; exact h),
    (sortKV_keys_perm _).trans (by rw [sortKeysM_keys])⟩

theorem sorted_noDup (v : Val) (h : v.NoDup) : (sortKeys v).NoDup := (sortKeys_spec v h).1

/-- **no repeated key (every Python value): Python's reading of the parse tree (`dict`: one value per key) is the tree itself** -/
theorem python_value (v : Val) (h : v.NoDup) : pyNorm (toJV (sortKeys v)) = toJV (sortKeys v) :=
  pyNorm_toJV _ (sortKeys_spec v h).1

/-- with a repeated key (not a Python dict) both items are written, in insertion order, and Python's `json.loads` would keep the last -/
theorem dup_keys_written : dumpsCompact (.obj [(['a'], .int 1), (['a'], .int 2)]) = Report.s "{\"a\": 1, \"a\": 2}" := by
  unfold Report.s
  decode_literals
  decide +kernel

theorem dup_keys_python :
    pyNorm (toJV (sortKeys (.obj [(['a'], .int 1), (['a'], .int 2)]))) = .obj [(['a'], .int 2)] ∧
    toJV (sortKeys (.obj [(['a'], .int 1), (['a'], .int 2)])) = .obj [(['a'], .int 1), (['a'], .int 2)] :=
  ⟨rfl, rfl⟩

/-- writing the parsed value again gives the same text -/
theorem dumps_sorted (fm : Fmt) (v : Val) : dumps fm (sortKeys v) = dumps fm v := by
  unfold dumps; rw [sortKeys_idem]

/-- **the insertion order of a dict does not show**: the same items in another order give the same text (hash seeds, code paths
    that fill `res[...]` in another order) -/
theorem insertion_order_irrelevant (fm : Fmt) (kvs kvs' : List (Str × Val)) (hp : kvs.Perm kvs') (hnd : (kvs.map (·.1)).Nodup) :
    dumps fm (.obj kvs) = dumps fm (.obj kvs') := by
  unfold dumps
  simp only [sortKeys, sortKeysM_eq]
  rw [sortKV_perm_eq _ _ (hp.map _) (by rw [← sortKeysM_eq, sortKeysM_keys]; exact hnd)]

/-- **the compact form is printable ASCII only** -/
theorem compact_printable (v : Val) : ∀ c ∈ dumpsCompact v, 0x20 ≤ c.toNat ∧ c.toNat < 0x7f :=
  render_chars compact PrintableAscii (fun _ h => h) (compact_chars.mono fun _ h => h ▸ by decide) (sortKeys v) 0

/-- **`-j` prints one line** -/
theorem compact_single_line (v : Val) : '\n' ∉ dumpsCompact v ∧ '\r' ∉ dumpsCompact v :=
  ⟨fun h => absurd (compact_printable v _ h) (by decide), fun h => absurd (compact_printable v _ h) (by decide)⟩

/-- the indented form: printable ASCII, line feeds, nothing else -/
theorem indented_chars (v : Val) : ∀ c ∈ dumpsIndented v, (0x20 ≤ c.toNat ∧ c.toNat < 0x7f) ∨ c = '\n' := by
  have hfm : indent4.Chars (fun c => PrintableAscii c ∨ c = '\n') := indent4_chars.mono fun c h => by
    rcases h with rfl | rfl
    · exact .inr rfl
    · exact .inl (by decide)
  exact render_chars indent4 _ (fun _ h => Or.inl h) hfm (sortKeys v) 0

/-- **every character of either form is ASCII** (`ensure_ascii=True`) -/
theorem ascii_only (indent : Bool) (v : Val) : ∀ c ∈ docText indent v, c.toNat < 128 := by
  intro c hc
  unfold docText at hc
  cases indent
  · have := compact_printable v c hc; omega
  · rcases indented_chars v c hc with h | h
    · omega
    · subst h; decide

/-- a line feed of the indented form is never inside a string: string contents are printable ASCII in both forms -/
theorem string_body_printable (t : Str) : ∀ c ∈ dumpStr t, 0x20 ≤ c.toNat ∧ c.toNat < 0x7f := dumpStr_ascii t

/-- **`dumps` is injective up to the order of keys** … -/
theorem dumps_injective (fm : Fmt) (hfm : fm.Ws) (v w : Val) (h : dumps fm v = dumps fm w) : sortKeys v = sortKeys w := by
  have hv := loads_dumps fm hfm v
  have hw := loads_dumps fm hfm w
  rw [h, hw] at hv
  exact (toJV_inj _ _ (by injection hv)).symm

/-- … and injective outright on key-sorted values -/
theorem dumps_injective_sorted (fm : Fmt) (hfm : fm.Ws) (v w : Val) (hv : sortKeys v = v) (hw : sortKeys w = w)
    (h : dumps fm v = dumps fm w) : v = w := by
  rw [← hv, ← hw]; exact dumps_injective fm hfm v w h

/-- the two forms of one value differ only in white space: they determine each other -/
theorem compact_determines_indented (v w : Val) (h : dumpsCompact v = dumpsCompact w) : dumpsIndented v = dumpsIndented w := by
  have := dumps_injective compact compact_ws v w h
  unfold dumpsIndented dumps; rw [this]

/-- **`build_struct`'s value never holds a key twice** (SSH-2 peer; else-branch) — the hypothesis of `python_value` holds for it -/
theorem doc_noDup (rf : List Str) (fu : Str) (db : DB) (peer : Report.Peer) (recs : List Report.Rec) (notes : List Str) (m : Meta) :
    (doc rf fu db peer recs notes m).NoDup := by
  have hwho : (whoVal m.hostPort m.clientHost).2.NoDup := by unfold whoVal; cases m.clientHost <;> trivial
  have hfp : (Val.arr (m.fps.flatMap fpEntries)).NoDup := by
    refine noDup_arr fun x hx => ?_
    obtain ⟨f, _, hf⟩ := List.mem_flatMap.mp hx
    exact (noDupL_iff _).mp (noDupL_fpEntries f) x hf
  -- one conjunct per item in the order of `doc` (banner, client_ip / target, compression, kex, key, enc, mac, fingerprints), then the empty rest
  exact noDup_obj (doc_keys_nodup rf fu db peer recs notes m) ((noDupM_append _ _).mpr ⟨⟨noDup_bannerVal _, hwho, noDup_strs _,
    noDup_algList (kexExtra_ok _), noDup_algList (keyExtra_ok _ _), noDup_algList fun _ => extraOk_nil,
    noDup_algList fun _ => extraOk_nil, hfp, trivial⟩, noDupM_tail recs notes⟩)

/-- the else-branch, when `client_ip` or `target` is absent (`noDup_docElse`: for every `d`) -/
theorem docElse_noDup (d : Ssh1Report.Doc) (h : d.clientIp = none ∨ d.target = none) : (docElse d).NoDup := noDup_docElse d

/-- … in particular the document of every SSH-1 audit the report model describes -/
theorem docElse_ssh1_noDup (t : Ssh1Report.Tables) (h : Ssh1Report.Hashes) (db1 db2 : DB) (x : Ssh1Report.Input) :
    (docElse (Ssh1Report.doc t h db1 db2 x)).NoDup := noDup_docElse _

theorem doc_keys (rf : List Str) (fu : Str) (db : DB) (peer : Report.Peer) (recs : List Report.Rec) (notes : List Str) (m : Meta) :
    (doc rf fu db peer recs notes m).keys =
      [Report.s "banner", if m.clientHost.isSome then Report.s "client_ip" else Report.s "target", Report.s "compression",
       Report.kexC, Report.keyC, Report.encC, Report.macC, Report.s "fingerprints", Report.s "cves", Report.s "recommendations",
       Report.s "additional_notes"] := by
  simp only [doc, tailItems, Val.keys, List.cons_append, List.nil_append, List.map_cons, List.map_nil, whoVal_fst]

/-- **the document of a standard audit reads back**, in both forms, to the same value -/
theorem doc_round_trip (indent : Bool) (rf : List Str) (fu : Str) (db : DB) (peer : Report.Peer) (recs : List Report.Rec) (notes : List Str) (m : Meta) :
    loads (docText indent (doc rf fu db peer recs notes m)) = .ok (toJV (sortKeys (doc rf fu db peer recs notes m))) :=
  loads_docText indent _

theorem doc_get_lists (rf : List Str) (fu : Str) (db : DB) (peer : Report.Peer) (recs : List Report.Rec) (notes : List Str) (m : Meta) :
    (doc rf fu db peer recs notes m).get Report.kexC = some (algList db fu Report.kexC peer.kex (kexExtra peer.dhSizes)) ∧
    (doc rf fu db peer recs notes m).get Report.keyC = some (algList db fu Report.keyC peer.key (keyExtra rf peer.hostKeys)) ∧
    (doc rf fu db peer recs notes m).get Report.encC = some (algList db fu Report.encC peer.encS (fun _ => [])) ∧
    (doc rf fu db peer recs notes m).get Report.macC = some (algList db fu Report.macC peer.macS (fun _ => [])) := by
  have hnd := doc_keys_nodup rf fu db peer recs notes m
  exact ⟨Val.get_of_mem hnd (List.mem_of_getElem? (i := 3) rfl), Val.get_of_mem hnd (List.mem_of_getElem? (i := 4) rfl),
    Val.get_of_mem hnd (List.mem_of_getElem? (i := 5) rfl), Val.get_of_mem hnd (List.mem_of_getElem? (i := 6) rfl)⟩

/-- **an algorithm list names exactly the advertised names, in order, once per occurrence** -/
theorem algList_names (db : DB) (fu cat : Str) (names : List Str) (extra : Str → List (Str × Val)) :
    (algList db fu cat names extra).items.map entryName = names.map some := by
  simp only [algList, Val.items, List.map_map]
  exact List.map_congr_left fun n _ => entryName_algEntry db fu cat n (extra n)

/-- **the notes of an entry are `fetch_notes` of its name** -/
theorem algEntry_notes (db : DB) (fu cat name : Str) (extra : List (Str × Val)) :
    (algEntry db fu cat name extra).get kNotes = some (notesVal (Report.jsonNotes db fu cat name)) := by
  have h : kAlgorithm ≠ kNotes := fun e => (List.nodup_cons.mp nodup_entryKeys).1 (e ▸ List.mem_cons_self)
  simp only [algEntry, List.cons_append, Val.get_cons, h, if_false, if_true]

theorem notesAt_levels (db : DB) (fu cat name : Str) (extra : List (Str × Val)) :
    notesAt (algEntry db fu cat name extra) kFail = ((Report.jsonNotes db fu cat name).fail.getD []).filterMap id ∧
    notesAt (algEntry db fu cat name extra) kWarn = ((Report.jsonNotes db fu cat name).warn.getD []).filterMap id ∧
    notesAt (algEntry db fu cat name extra) kInfo = ((Report.jsonNotes db fu cat name).info.getD []).filterMap id := by
  have hn := algEntry_notes db fu cat name extra
  generalize Report.jsonNotes db fu cat name = n at hn ⊢
  obtain ⟨h1, h2, h3⟩ := notesVal_get n
  -- a level that is present holds its note list; `notesAt` keeps the texts
  have at_level : ∀ level l, (notesVal n).get level = Option.map noteList l →
      notesAt (algEntry db fu cat name extra) level = (l.getD []).filterMap id := by
    intro level l hl
    rw [notesAt, hn, Option.bind_some, hl]
    cases l with
    | none => rfl
    | some l => exact items_noteList l
  exact ⟨at_level _ _ h1, at_level _ _ h2, at_level _ _ h3⟩

/-- **JSON findings = text findings for a name the database knows**, read from the document: the failure and warning texts of the entry are
    exactly the text report's (`C03.textsAt`), the informational ones the same up to order (the "available since" text comes last in JSON) -/
theorem entry_notes_eq_text (db : DB) (fu cat n : Str) (extra : List (Str × Val)) (e : Entry)
    (hl : DBm.lookup db cat (Report.gssNormalize cat n) = some e) :
    notesAt (algEntry db fu cat n extra) kFail = C03.textsAt e .fail ∧
    notesAt (algEntry db fu cat n extra) kWarn = C03.textsAt e .warn ∧
    (notesAt (algEntry db fu cat n extra) kInfo).Perm (((Report.rawTexts e).filter (·.level = .info)).map (·.text)) := by
  obtain ⟨h1, h2, h3⟩ := notesAt_levels db fu cat n extra
  obtain ⟨j1, j2⟩ := C03.json_eq_text_fail_warn db fu cat n e hl
  rw [h1, h2, h3, j1, j2]
  exact ⟨rfl, rfl, C15.json_info_perm_text db fu cat n e hl⟩

/-- an unknown name carries exactly the failure note of unknown algorithms, and nothing else -/
theorem entry_notes_unknown (db : DB) (fu cat n : Str) (extra : List (Str × Val)) (hu : DBm.lookup db cat (Report.gssNormalize cat n) = none) :
    notesAt (algEntry db fu cat n extra) kFail = [fu] ∧ notesAt (algEntry db fu cat n extra) kWarn = [] ∧
    notesAt (algEntry db fu cat n extra) kInfo = [] := by
  obtain ⟨h1, h2, h3⟩ := notesAt_levels db fu cat n extra
  rw [h1, h2, h3, C03.unknown_flagged_json db fu cat n hu]
  exact ⟨rfl, rfl, rfl⟩

theorem docNames_algList (d : Val) (cat : Str) (db : DB) (fu : Str) (names : List Str) (extra : Str → List (Str × Val))
    (h : d.get cat = some (algList db fu cat names extra)) : docNames d cat = names := by
  have e : ((algList db fu cat names extra).items.map entryName).filterMap id = names := by
    rw [algList_names, List.filterMap_map]; exact List.filterMap_some
  rw [List.filterMap_map] at e
  unfold docNames; rw [h]; exact e

/-- **the document lists every advertised name (blank ones too); the names the text report prints are the non-blank ones, in the same order** -/
theorem doc_names_eq_report (rf : List Str) (fu : Str) (db0 : DB) (peer : Report.Peer) (client : Bool) (bsw : Option Str)
    (sw : Option Version.Software) (rate : Str) (m : Meta) :
    let d := docOfAudit rf fu db0 peer client bsw sw rate m
    let r := Report.report rf db0 peer client bsw sw rate
    docNames d Report.kexC = peer.kex ∧ docNames d Report.keyC = peer.key ∧ docNames d Report.encC = peer.encS ∧ docNames d Report.macC = peer.macS ∧
    r.kex.map (·.name) = (docNames d Report.kexC).filter (Report.printed Report.kexC) ∧
    r.key.map (·.name) = (docNames d Report.keyC).filter (Report.printed Report.keyC) ∧
    r.enc.map (·.name) = (docNames d Report.encC).filter (Report.printed Report.encC) ∧
    r.mac.map (·.name) = (docNames d Report.macC).filter (Report.printed Report.macC) := by
  intro d r
  obtain ⟨g1, g2, g3, g4⟩ := doc_get_lists rf fu (Report.postProcess db0 peer client bsw rate).db peer r.recs r.notes m
  rw [docNames_algList d _ _ _ _ _ g1, docNames_algList d _ _ _ _ _ g2, docNames_algList d _ _ _ _ _ g3, docNames_algList d _ _ _ _ _ g4]
  exact ⟨rfl, rfl, rfl, rfl, Report.algLines_names _ _ _ _ _ _, Report.algLines_names _ _ _ _ _ _, Report.algLines_names _ _ _ _ _ _,
    Report.algLines_names _ _ _ _ _ _⟩

/-- the entry of the `i`-th advertised name is built from that name alone (and the size maps): nothing else of the audit enters it -/
theorem doc_entry_local (rf : List Str) (fu : Str) (db : DB) (peer : Report.Peer) (recs : List Report.Rec) (notes : List Str) (m : Meta) :
    docEntries (doc rf fu db peer recs notes m) Report.kexC = peer.kex.map (fun n => algEntry db fu Report.kexC n (kexExtra peer.dhSizes n)) ∧
    docEntries (doc rf fu db peer recs notes m) Report.keyC = peer.key.map (fun n => algEntry db fu Report.keyC n (keyExtra rf peer.hostKeys n)) ∧
    docEntries (doc rf fu db peer recs notes m) Report.encC = peer.encS.map (fun n => algEntry db fu Report.encC n []) ∧
    docEntries (doc rf fu db peer recs notes m) Report.macC = peer.macS.map (fun n => algEntry db fu Report.macC n []) := by
  obtain ⟨g1, g2, g3, g4⟩ := doc_get_lists rf fu db peer recs notes m
  unfold docEntries
  rw [g1, g2, g3, g4]
  exact ⟨rfl, rfl, rfl, rfl⟩

/-- **`keysize` of a key exchange is the modulus size the text report shows in its `(N-bit)` suffix**, present exactly when the text has one -/
theorem kex_keysize_eq_shown (rf : List Str) (db : DB) (fu n : Str) (hk : List (Str × Report.HostKeyInfo)) (dh : List (Str × Nat)) :
    (∀ k, dh.find? (·.1 = n) = some (n, k) →
      (algEntry db fu Report.kexC n (kexExtra dh n)).get kKeysize = some (.int k) ∧
      Report.shownName rf Report.kexC n hk dh = n ++ Report.s " (" ++ Text.natToStr k ++ Report.s "-bit)") ∧
    (dh.find? (·.1 = n) = none →
      (algEntry db fu Report.kexC n (kexExtra dh n)).get kKeysize = none ∧ Report.shownName rf Report.kexC n hk dh = n) := by
  rw [algEntry_get_extra List.mem_cons_self]
  unfold kexExtra Report.shownName
  constructor
  · intro k h
    rw [h]
    exact ⟨by rw [Val.get_cons, if_pos rfl], by simp⟩
  · intro h
    rw [h]
    exact ⟨rfl, by simp⟩

/-- **the size fields of a host-key entry**: `keysize` for the RSA family and the `ssh-rsa-cert-v0…` types, the CA type and size exactly when a
    CA size was measured — the same conditions under which the text report shows `(N-bit)` / `(N-bit cert/M-bit T CA)` -/
theorem key_size_fields (rf : List Str) (db : DB) (fu n : Str) (hk : List (Str × Report.HostKeyInfo)) (info : Report.HostKeyInfo)
    (h : hk.find? (·.1 = n) = some (n, info)) :
    (algEntry db fu Report.keyC n (keyExtra rf hk n)).get kKeysize
      = (if rf.contains n || Text.startsWith n (Report.s "ssh-rsa-cert-v0") then some (.int info.size) else none) ∧
    (algEntry db fu Report.keyC n (keyExtra rf hk n)).get kCasize = (if info.caSize > 0 then some (.int info.caSize) else none) ∧
    (algEntry db fu Report.keyC n (keyExtra rf hk n)).get kCaAlgorithm = (if info.caSize > 0 then some (.str info.caType) else none) := by
  obtain ⟨hKA, hKS, hAS⟩ := sizeKeys_ne
  rw [algEntry_get_extra (by simp), algEntry_get_extra (by simp), algEntry_get_extra (by simp)]
  unfold keyExtra
  rw [h]
  -- each size key is found in its own optional block and is absent from the other: the three keys differ
  simp only [Val.get_append, Val.get_ite, Val.get_cons, Val.get_nil, hKA, hKS, hAS, hKA.symm, hKS.symm, hAS.symm, if_true, if_false, ite_self,
    Option.or_none, Option.none_or, and_self]

/-- a host-key type the scan did not measure carries no size field -/
theorem key_no_size_fields (rf : List Str) (db : DB) (fu n : Str) (hk : List (Str × Report.HostKeyInfo)) (h : hk.find? (·.1 = n) = none) :
    (algEntry db fu Report.keyC n (keyExtra rf hk n)).keys = [kAlgorithm, kNotes] := by
  unfold keyExtra; rw [h]; rfl

/-- the other top-level items are the report's data, unchanged -/
theorem doc_get_rest (rf : List Str) (fu : Str) (db : DB) (peer : Report.Peer) (recs : List Report.Rec) (notes : List Str) (m : Meta) :
    (doc rf fu db peer recs notes m).get (Report.s "additional_notes") = some (strs notes) ∧
    (doc rf fu db peer recs notes m).get (Report.s "recommendations") = some (recsVal recs) ∧
    (doc rf fu db peer recs notes m).get (Report.s "compression") = some (strs peer.compS) ∧
    (doc rf fu db peer recs notes m).get (Report.s "cves") = some (.arr []) ∧
    (doc rf fu db peer recs notes m).get (Report.s "banner") = some (bannerVal m.banner) := by
  have hnd := doc_keys_nodup rf fu db peer recs notes m
  -- each item by its position among the eleven (the last three are `tailItems`)
  exact ⟨Val.get_of_mem hnd (List.mem_of_getElem? (i := 10) rfl), Val.get_of_mem hnd (List.mem_of_getElem? (i := 9) rfl),
    Val.get_of_mem hnd (List.mem_of_getElem? (i := 2) rfl), Val.get_of_mem hnd (List.mem_of_getElem? (i := 8) rfl),
    Val.get_of_mem hnd (List.mem_of_getElem? (i := 0) rfl)⟩

/-- **`recommendations[level][action][category]` is the list of the report's recommendations of that level, action and category, in the
    report's order**; the key is absent when there is none -/
theorem recs_listed (recs : List Report.Rec) (l : Nat) (hl : l ∈ [2, 1, 0]) (a : Report.Action) (c : Str)
    (hc : c ∈ [Report.kexC, Report.keyC, Report.encC, Report.macC]) :
    (((recsVal recs).get (recLevelName l)).bind (·.get (actionName a))).bind (·.get c)
      = (let sel := recs.filter (fun r => Report.recLevel r = l ∧ r.action = a ∧ r.cat = c)
         if sel.isEmpty then none else some (.arr (sel.map recEntry))) := by
  have e3 : recs.filter (fun r => Report.recLevel r = l ∧ r.action = a ∧ r.cat = c)
      = ((recs.filter (fun r => Report.recLevel r = l)).filter (fun r => r.action = a)).filter (fun r => r.cat = c) := by
    simp only [List.filter_filter]
    exact List.filter_congr fun r _ => by simp only [Bool.decide_and]; ac_rfl
  unfold recsVal
  rw [groups_get [2, 1, 0] recLevelName _ _ nodup_levelNames l hl,
    groups_get_filter [Report.Action.del, .add, .chg] actionName (fun a r => r.action = a) _ nodup_actionNames a (by cases a <;> simp), e3]
  exact groups_get_filter [Report.kexC, Report.keyC, Report.encC, Report.macC] id (fun c r => r.cat = c) _ nodup_catNames c hc _

/-- the else-branch (SSH-1 peer / no peer): bare name lists (`null` without a public-key message), no per-algorithm notes -/
theorem docElse_lists (d : Ssh1Report.Doc) :
    (docElse d).get Report.keyC = some (strs d.key) ∧ (docElse d).get Report.encC = some (optStrs d.enc) ∧
    (docElse d).get Report.autC = some (optStrs d.aut) := by
  have hnd := docElse_keys_nodup d
  -- the fourth of the five lists `docElse` appends holds the three
  exact ⟨Val.get_of_mem hnd (List.mem_append_left _ (List.mem_append_right _ (.head _))),
    Val.get_of_mem hnd (List.mem_append_left _ (List.mem_append_right _ (.tail _ (.head _)))),
    Val.get_of_mem hnd (List.mem_append_left _ (List.mem_append_right _ (.tail _ (.tail _ (.head _)))))⟩

/-- **the text handed to the buffer is a function of the document value and the indentation flag only** -/
theorem printed_text (cfg : Output.Cfg) (inp : Output.Input) (v : Val) :
    Output.jsonDoc cfg (withDoc inp v) = docText cfg.jsonIndent v := by
  unfold Output.jsonDoc withDoc docText; rfl

theorem printed_option_free (cfg cfg' : Output.Cfg) (hi : cfg.jsonIndent = cfg'.jsonIndent) (inp inp' : Output.Input) (v : Val) :
    Output.jsonDoc cfg (withDoc inp v) = Output.jsonDoc cfg' (withDoc inp' v) := by
  rw [printed_text, printed_text, hi]

/-- **stdout of a completed `-j` / `-jj` audit is the document and one line feed**, for every other option (no `-d`), and that text is one
    well-formed document whose value does not depend on the form -/
theorem stdout_is_document (cfg : Output.Cfg) (hj : cfg.json = true) (hd : cfg.debug = false) (vmsgs : List Str) (inp : Output.Input) (v : Val) :
    Output.outText (Output.stdoutOf cfg vmsgs (withDoc inp v)) = docText cfg.jsonIndent v ++ ['\n'] ∧
    loads (docText cfg.jsonIndent v) = .ok (toJV (sortKeys v)) :=
  ⟨by rw [(C15.json_stdout_single cfg hj hd vmsgs (withDoc inp v)).2.2, printed_text], loads_docText _ v⟩

example : dumpsCompact (.obj [(['b'], .arr [.int 1, .int (-2), .null, .bool true, .arr [], .obj []]), (['a'], .str ['x', '"', '\\', '\n', 'é'])])
    = Report.s "{\"a\": \"x\\\"\\\\\\n\\u00e9\", \"b\": [1, -2, null, true, [], {}]}" := by
  unfold Report.s
  decode_literals
  decide +kernel
example : dumpsIndented (.obj [(['b'], .arr [.int 1]), (['a'], .obj [])]) = Report.s "{\n    \"a\": {},\n    \"b\": [\n        1\n    ]\n}" := by
  unfold Report.s
  decode_literals
  decide +kernel
example : dumpsCompact (.str [Char.ofNat 0x1F600, Char.ofNat 0x7f, Char.ofNat 0]) = Report.s "\"\\ud83d\\ude00\\u007f\\u0000\"" := by
  unfold Report.s
  decode_literals
  decide +kernel
example : (match loads (Report.s "{} {}") with | .error .invalid => true | _ => false) = true := by decide +kernel
example : (match loads (Report.s "{\"a\": 1") with | .error .invalid => true | _ => false) = true := by decide +kernel
example : (match loads (Report.s "{\"a\": [1, \"x\"]}") with | .ok (.obj [(_, .arr [.int 1, .str _])]) => true | _ => false) = true := by
  unfold Report.s
  decode_literals
  decide +kernel
example : (Val.obj [(['a'], .int 1), (['b'], .int 2)]).NoDup := by simp [Val.NoDup, NoDupM]
example : ¬ (Val.obj [(['a'], .int 1), (['a'], .int 2)]).NoDup := by simp [Val.NoDup, NoDupM]
example : compact.Ws ∧ indent4.Ws := ⟨compact_ws, indent4_ws⟩

end SshAudit.C15JsonDoc
