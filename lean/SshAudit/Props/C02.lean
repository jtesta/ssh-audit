/-
  C02 — Exit status reflects the worst finding; incomplete audits never look clean.

  `Report.foldStatus` is `output_algorithm`'s update of `program_retval` ("fail ↦ 3; warn ↦ 2 unless already 3"),
  folded over every tagged note of the report; `Session.auditEnd` is the decision logic of `audit()`: which exit
  status each way of ending an audit yields.
-/
import SshAudit.Lemmas.Report
import SshAudit.Model.Session
namespace SshAudit.C02
open SshAudit SshAudit.Report

theorem foldStatus_append (st : Nat) (a b : List Note) : foldStatus st (a ++ b) = foldStatus (foldStatus st a) b :=
  Report.foldStatus_append st a b

theorem foldStatus_three (N : List Note) : foldStatus 3 N = 3 := Report.foldStatus_three N

theorem foldStatus_two (N : List Note) : foldStatus 2 N = if N.any (·.level = .fail) then 3 else 2 := Report.foldStatus_two N

theorem foldStatus_zero (N : List Note) :
    foldStatus 0 N = if N.any (·.level = .fail) then 3 else if N.any (·.level = .warn) then 2 else 0 := Report.foldStatus_zero N

/-- **Status 3 iff some failure; 2 iff no failure but a warning; 0 iff neither.** -/
theorem status_iff (N : List Note) :
    (foldStatus 0 N = 3 ↔ ∃ n ∈ N, n.level = .fail) ∧
    (foldStatus 0 N = 2 ↔ (∀ n ∈ N, n.level ≠ .fail) ∧ ∃ n ∈ N, n.level = .warn) ∧
    (foldStatus 0 N = 0 ↔ ∀ n ∈ N, n.level = .info) := foldStatus_iff N

/-- the status only takes the documented values -/
theorem status_range (N : List Note) : foldStatus 0 N = 0 ∨ foldStatus 0 N = 2 ∨ foldStatus 0 N = 3 := foldStatus_range N

/-- any reordering of the findings (any interleaving of categories, any list order) gives the same status -/
theorem status_perm (N M : List Note) (h : N.Perm M) : foldStatus 0 N = foldStatus 0 M :=
  foldStatus_congr_mem 0 fun _ => h.mem_iff

theorem statusOfLines_eq (st : Nat) (ls : List AlgLine) : statusOfLines st ls = foldStatus st (ls.flatMap (·.notes)) :=
  Report.statusOfLines_eq st ls

/-- **The exit status of a standard report is the fold over every tagged note it shows** (all four categories).
    It takes no output option as an argument: batch, verbose, colour, level and JSON cannot influence it. -/
theorem report_status (rf : List Str) (db : DB) (peer : Peer) (client : Bool) (bsw : Option Str) (sw : Option Version.Software) (rn : Str) :
    let r := report rf db peer client bsw sw rn
    r.status = foldStatus 0 ((r.kex ++ r.key ++ r.enc ++ r.mac).flatMap (·.notes)) := by
  simp only [report, Report.statusOfLines_eq, List.flatMap_append, Report.foldStatus_append]

open Session in
/-- **An audit that could not obtain and parse the peer's algorithm lists exits 1 and prints no algorithm report.** -/
theorem incomplete_never_clean (cfg : AuditCfg) (h : Handshake) (hne : h ≠ .ok) (res : AuditResult) :
    (auditEnd cfg h res).status = 1 ∧ (auditEnd cfg h res).algReport = false := by
  cases h <;> simp_all [auditEnd, connectionError]

open Session in
/-- a completed standard audit ends with the report's status; a policy audit with 0 iff passed, 3 iff failed -/
theorem complete_status (cfg : AuditCfg) (res : AuditResult) :
    (auditEnd cfg .ok res).status =
      (match cfg.mode with
       | .standard => res.reportStatus
       | .policy => if res.policyPassed then 0 else 3
       | .makePolicy => 0) := by
  cases h : cfg.mode <;> simp [auditEnd, h]

open Session in
theorem policy_status (cfg : AuditCfg) (res : AuditResult) (hm : cfg.mode = .policy) :
    ((auditEnd cfg .ok res).status = 0 ↔ res.policyPassed = true) ∧ ((auditEnd cfg .ok res).status = 3 ↔ res.policyPassed = false) := by
  simp only [auditEnd, hm]
  cases res.policyPassed <;> simp

example : foldStatus 0 [⟨.warn, []⟩, ⟨.fail, []⟩, ⟨.warn, []⟩, ⟨.info, []⟩] = 3 := by decide
example : foldStatus 0 [⟨.info, []⟩, ⟨.warn, []⟩] = 2 := by decide

end SshAudit.C02
