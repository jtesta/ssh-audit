/-
  C04 — Terrapin (CVE-2023-48795) exposure is flagged exactly per the published rule.

  `Report.postProcess` is `post_process_findings`; `pp.db` is the database the report is then
  rendered from.  `Report.Venc` / `Report.Vmac` are the published rule: ChaCha20-Poly1305 ciphers, plus — only when a
  CBC cipher *and* an EtM MAC are both offered — all CBC ciphers and all EtM MACs.
-/
import SshAudit.Lemmas.Report
import SshAudit.Lemmas.DB
namespace SshAudit.C04
open SshAudit SshAudit.Report

theorem marker_eq (db : DB) (peer : Peer) (client : Bool) (bsw : Option Str) (rn : Str) :
    (postProcess db peer client bsw rn).marker = markerFor peer client := rfl

/-- exactly the rule's algorithms are marked when the role's marker is absent, none when it is present (definitional: `vulnerable` is
    this expression; that `post_process_findings` computes it is `GenLogic.terrapin_rule_eq_model`) -/
theorem terrapin_exact (db : DB) (peer : Peer) (client : Bool) (bsw : Option Str) (rn : Str) :
    (postProcess db peer client bsw rn).vulnerable =
      if markerFor peer client then [] else (Venc peer client).map (encC, ·) ++ (Vmac peer client).map (macC, ·) := rfl

/-- only ciphers and MACs are ever marked — never a key exchange or host-key algorithm -/
theorem only_enc_mac (db : DB) (peer : Peer) (client : Bool) (bsw : Option Str) (rn : Str) :
    ∀ cn ∈ (postProcess db peer client bsw rn).vulnerable, cn.1 = encC ∨ cn.1 = macC := by
  intro cn h
  rw [terrapin_exact] at h
  split at h
  · cases h
  · simp only [List.mem_append, List.mem_map] at h
    rcases h with ⟨_, _, rfl⟩ | ⟨_, _, rfl⟩
    · exact Or.inl rfl
    · exact Or.inr rfl

/-- the marker of the *other* role is ignored -/
theorem other_role_marker_ignored (peer : Peer) :
    (peer.kex.contains strictC = false → markerFor peer true = false) ∧ (peer.kex.contains strictS = false → markerFor peer false = false) :=
  ⟨(markerFor_client peer).trans, (markerFor_server peer).trans⟩

/-- membership in the rule: a cipher is in V iff it is offered and (ChaCha, or CBC while some EtM MAC is offered) -/
theorem mem_Venc (peer : Peer) (client : Bool) (n : Str) :
    n ∈ Venc peer client ↔ n ∈ ciphersOf peer client ∧ (isChacha n = true ∨ (isCbc n = true ∧ ∃ m ∈ macsOf peer client, isEtm m = true)) :=
  Report.mem_Venc peer client n

theorem mem_Vmac (peer : Peer) (client : Bool) (n : Str) :
    n ∈ Vmac peer client ↔ n ∈ macsOf peer client ∧ isEtm n = true ∧ ∃ c ∈ ciphersOf peer client, isCbc c = true :=
  Report.mem_Vmac peer client n

/-- **With the marker the advisory note names exactly V (ChaCha, then CBC, then EtM) and exists iff V is non-empty; without it there is none.** -/
theorem advisory_note (db : DB) (peer : Peer) (client : Bool) (bsw : Option Str) :
    (postProcess db peer client bsw []).notes =
      if markerFor peer client = true ∧ Venc peer client ++ Vmac peer client ≠ [] then [advisory (Venc peer client ++ Vmac peer client)] else [] := by
  simp only [postProcess, List.length_nil, gt_iff_lt, Nat.lt_irrefl, if_false, List.append_nil]
  cases markerFor peer client
  · rfl
  · cases Venc peer client ++ Vmac peer client <;> rfl

def terrapinIn (db : DB) (cat n : Str) : Bool :=
  match DBm.lookup db cat n with
  | some e => (DBm.slot e 2).contains (some terrapinText)
  | none => false

theorem terrapinIn_eq (db : DB) (cat n : Str) :
    terrapinIn db cat n = ((DBm.lookup db cat n).map fun e => (DBm.slot e 2).contains (some terrapinText)).getD false := by
  unfold terrapinIn
  cases DBm.lookup db cat n <;> rfl

/-- adding the warning to one entry makes it present there and changes no other entry's warnings -/
theorem terrapinIn_addTerrapin (db : DB) (cat name c n : Str) :
    terrapinIn (addTerrapin db cat name) c n =
      (terrapinIn db c n || (decide (c = cat ∧ n = name) && (DBm.lookup db c n).isSome)) := by
  unfold terrapinIn addTerrapin
  rw [lookup_updateEntry]
  by_cases h : c = cat ∧ n = name
  · rw [if_pos h]
    cases hl : DBm.lookup db c n with
    | none => simp
    | some e =>
      simp only [Option.map_some, h, and_self, decide_true, Option.isSome_some, Bool.and_self, Bool.or_true]
      rw [slot_appendAt, if_pos ⟨rfl, by omega⟩]
      simp
  · rw [if_neg h]; simp [h]

theorem terrapinIn_foldl (cat : Str) (names : List Str) (db : DB) (c n : Str) :
    terrapinIn (names.foldl (fun d x => addTerrapin d cat x) db) c n =
      (terrapinIn db c n || (decide (c = cat ∧ n ∈ names) && (DBm.lookup db c n).isSome)) := by
  induction names generalizing db with
  | nil => simp
  | cons x xs ih =>
    rw [List.foldl_cons, ih, terrapinIn_addTerrapin, DBm.isSome_of_keys (show DBm.keys (addTerrapin db cat x) c = _ from keys_updateEntry ..) n,
      Bool.or_assoc, ← Bool.and_or_distrib_right]
    congr 2
    simp only [List.mem_cons, and_or_left, Bool.decide_or]

/-- the OpenSSH-2048 note touches the info slot of one key exchange: Terrapin marks and the key set are unaffected -/
theorem fallback_frame (db : DB) (peer : Peer) (bsw : Option Str) (c n : Str) :
    terrapinIn (dbAfterFallback db peer bsw) c n = terrapinIn db c n ∧
    (DBm.lookup (dbAfterFallback db peer bsw) c n).isSome = (DBm.lookup db c n).isSome := by
  unfold dbAfterFallback
  split
  · refine ⟨?_, DBm.isSome_of_keys (keys_updateEntry ..) n⟩
    -- the note goes to slot 3; `terrapinIn` reads slot 2
    rw [terrapinIn_eq, terrapinIn_eq, lookup_updateEntry_map]
    exact fun e => congrArg (List.contains · (some terrapinText)) ((slot_appendAt e 3 4 _ 2).trans (if_neg (by omega)))
  · exact ⟨rfl, rfl⟩

theorem terrapinIn_postProcess (db : DB) (peer : Peer) (client : Bool) (bsw : Option Str) (rn : Str) (hm : markerFor peer client = false) (c n : Str) :
    terrapinIn (postProcess db peer client bsw rn).db c n =
      (terrapinIn db c n ||
        ((decide (c = encC ∧ n ∈ Venc peer client) || decide (c = macC ∧ n ∈ Vmac peer client)) && (DBm.lookup db c n).isSome)) := by
  have hk : DBm.keys ((Venc peer client).foldl (fun d n => addTerrapin d encC n) (dbAfterFallback db peer bsw)) c = _ :=
    keys_foldl_updateEntry encC _ _ _ c
  rw [postProcess_db, dbAfterTerrapin, hm, if_neg Bool.false_ne_true, terrapinIn_foldl, terrapinIn_foldl, DBm.isSome_of_keys hk n, (fallback_frame db peer bsw c n).1,
    (fallback_frame db peer bsw c n).2, Bool.or_assoc, ← Bool.and_or_distrib_right]

/-- **Rendered report, role's marker absent: a database-known cipher/MAC entry carries the Terrapin
    warning iff its name is in V** (the master table carrying none), and no key-exchange or
    host-key entry ever gains it. -/
theorem terrapin_in_report (db : DB) (peer : Peer) (client : Bool) (bsw : Option Str) (rn : Str) (hm : markerFor peer client = false)
    (hfresh : ∀ c n, terrapinIn db c n = false) (c n : Str) :
    terrapinIn (postProcess db peer client bsw rn).db c n =
      ((decide (c = encC ∧ n ∈ Venc peer client) || decide (c = macC ∧ n ∈ Vmac peer client)) && (DBm.lookup db c n).isSome) := by
  rw [terrapinIn_postProcess db peer client bsw rn hm, hfresh, Bool.false_or]

/-- **Role's marker present: the report's database carries no Terrapin mark at all.** -/
theorem marker_silences (db : DB) (peer : Peer) (client : Bool) (bsw : Option Str) (rn : Str) (hm : markerFor peer client = true)
    (hfresh : ∀ c n, terrapinIn db c n = false) (c n : Str) :
    terrapinIn (postProcess db peer client bsw rn).db c n = false ∧ (postProcess db peer client bsw rn).vulnerable = [] := by
  rw [postProcess_db, terrapin_exact, dbAfterTerrapin, if_pos hm, if_pos hm, (fallback_frame db peer bsw c n).1, hfresh c n]
  exact ⟨rfl, rfl⟩

theorem mem_unoffered (keys offered : List Str) (p : Str → Bool) (n : Str) (hk : n ∈ keys) (hp : p n = true) (hn : n ∉ offered) :
    n ∈ keys.filter (fun c => p c && !(offered.filter p).contains c) := by
  refine List.mem_filter.mpr ⟨hk, ?_⟩
  rw [hp, Bool.true_and, Bool.not_eq_true', ← Bool.not_eq_true, List.contains_iff_mem]
  exact fun h => hn (List.mem_filter.mp h).1

/-- every database name of ChaCha / CBC / EtM shape the peer does not offer is on the suppress list -/
theorem suppressed_if_disabled (db : DB) (peer : Peer) (client : Bool) (bsw : Option Str) (rn : Str) (n : Str) :
    (n ∈ DBm.keys (postProcess db peer client bsw rn).db encC ∧ isChacha n = true ∧ n ∉ ciphersOf peer client → n ∈ (postProcess db peer client bsw rn).suppress) ∧
    (n ∈ DBm.keys (postProcess db peer client bsw rn).db encC ∧ isCbc n = true ∧ n ∉ ciphersOf peer client → n ∈ (postProcess db peer client bsw rn).suppress) ∧
    (n ∈ DBm.keys (postProcess db peer client bsw rn).db macC ∧ isEtm n = true ∧ n ∉ macsOf peer client → n ∈ (postProcess db peer client bsw rn).suppress) := by
  -- `suppress` = fallback ++ unoffered ChaCha ++ unoffered CBC ++ unoffered EtM
  simp only [postProcess, List.mem_append]
  refine ⟨?_, ?_, ?_⟩
  · rintro ⟨hk, hs, hn⟩
    exact .inl (.inl (.inr (mem_unoffered _ _ _ n hk hs hn)))
  · rintro ⟨hk, hs, hn⟩
    exact .inl (.inr (mem_unoffered _ _ _ n hk hs hn))
  · rintro ⟨hk, hs, hn⟩
    exact .inr (mem_unoffered _ _ _ n hk hs hn)

/-- nothing on the suppress list is ever recommended (for addition or otherwise) -/
theorem suppressed_not_recommended (db : DB) (sw : Option Version.Software) (peer : Peer) (suppress : List Str) :
    ∀ r ∈ recommendations db sw peer suppress, r.name ∉ suppress := by
  intro r hr
  cases sw with
  | none => cases hr
  | some sw =>
    obtain ⟨_, _, _, _, _, hs⟩ := mem_recsFor.mp (recs_shared db (some sw) peer suppress ▸ hr)
    exact hs

def peerEx : Peer := { kex := [s "curve25519-sha256"], key := [], encC := [], encS := [s "chacha20-poly1305@openssh.com", s "aes128-cbc", s "aes256-ctr"],
                       macC := [], macS := [s "hmac-sha2-256-etm@openssh.com", s "hmac-sha2-256"], compS := [] }
example : Venc peerEx false = [s "chacha20-poly1305@openssh.com", s "aes128-cbc"] ∧ Vmac peerEx false = [s "hmac-sha2-256-etm@openssh.com"] := by
  unfold Venc Vmac both peerEx isChacha isCbc isEtm s
  decode_literals
  decide +kernel
example : markerFor { peerEx with kex := [strictC] } false = false ∧ markerFor { peerEx with kex := [strictS] } false = true := by
  unfold markerFor strictC strictS s
  decode_literals
  decide +kernel

end SshAudit.C04
