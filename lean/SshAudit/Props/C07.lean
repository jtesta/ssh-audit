/-
  C07 — Each target's result is independent of the other targets in the run.

  Model: SshAudit.Model.Multi.  The rating state shared between scans is the per-thread
  database map; every in-place edit a scan makes (Terrapin marks, key / modulus size notes, the
  OpenSSH-2048 note) is a `Step.edit` on the scanning thread's slot.  The theorems hold for any
  number of threads, any target lists, any edits and *every* interleaving of the workers' steps.
-/
import SshAudit.Model.Multi
namespace SshAudit.C07
open SshAudit SshAudit.Multi

/-- **Frame**: a step of thread `t` changes no other thread's slot -/
theorem step_frame (master : DB) (s : Shared) (st : Step) (u : Tid) (h : u ≠ st.tid) : (step master s st).1 u = s u := by
  cases st <;> exact if_neg h

/-- …and reads only its own slot -/
theorem step_local (master : DB) (s s' : Shared) (st : Step) (h : s st.tid = s' st.tid) :
    (step master s st).1 st.tid = (step master s' st).1 st.tid ∧ (step master s st).2 = (step master s' st).2 := by
  -- the slot is read through `getDb` only
  have hg : getDb master s st.tid = getDb master s' st.tid := congrArg (·.getD master) h
  cases st <;> simp only [step, setSlot, Step.tid, if_pos] at hg ⊢ <;> simp only [hg, and_self]

theorem exec_cons (master : DB) (s : Shared) (st : Step) (rest : List Step) :
    exec master s (st :: rest) = (step master s st).2.toList ++ exec master (step master s st).1 rest := by
  rw [exec]
  rcases step master s st with ⟨s', _ | obs⟩ <;> rfl

theorem finalState_cons (master : DB) (s : Shared) (st : Step) (rest : List Step) :
    finalState master s (st :: rest) = finalState master (step master s st).1 rest := rfl

theorem obs_tid (master : DB) (s : Shared) (st : Step) (obs : Tid × Nat × DB) (h : (step master s st).2 = some obs) : obs.1 = st.tid := by
  cases st with
  | render t x => exact Option.some.inj h ▸ rfl
  | _ => nomatch h

theorem filter_obs (master : DB) (s : Shared) (st : Step) (t : Tid) :
    (step master s st).2.toList.filter (·.1 = t) = if st.tid = t then (step master s st).2.toList else [] := by
  cases st with
  -- a render shows one observation, of its own thread `u`: `filter` keeps it when `decide (u = t) = true`, the right side when `u = t`
  | render u x => exact List.filter_cons.trans (ite_congr decide_eq_true_eq (fun _ => rfl) (fun _ => rfl))
  -- the other two steps show nothing
  | _ => exact (ite_self _).symm

/-- **Interleaving is irrelevant**: in any execution, what thread `t` observes is what it would observe running
    its own steps alone (from any state that agrees on its slot). -/
theorem interleaving_irrelevant (master : DB) (t : Tid) (steps : List Step) (s s' : Shared) (h : s t = s' t) :
    (exec master s steps).filter (·.1 = t) = exec master s' (steps.filter (·.tid = t)) := by
  induction steps generalizing s s' with
  | nil => rfl
  | cons st rest ih =>
    rw [exec_cons, List.filter_append, filter_obs]
    by_cases ht : st.tid = t
    · subst ht
      have hl := step_local master s s' st h
      rw [List.filter_cons_of_pos (by simp), exec_cons, if_pos rfl, hl.2, ih _ _ hl.1]
    · rw [List.filter_cons_of_neg (by simpa using ht), if_neg ht, List.nil_append]
      exact ih _ _ ((step_frame master s st t (fun e => ht e.symm)).trans h)

theorem exec_append_noobs (master : DB) (s : Shared) (a b : List Step) (h : exec master s a = []) :
    exec master s (a ++ b) = exec master (finalState master s a) b := by
  induction a generalizing s with
  | nil => rfl
  | cons st rest ih =>
    rw [exec_cons] at h
    rw [List.cons_append, exec_cons, finalState_cons, (List.append_eq_nil_iff.mp h).1, List.nil_append]
    exact ih _ (List.append_eq_nil_iff.mp h).2

theorem edits_run (master : DB) (t : Tid) (es : List (DB → DB)) (s : Shared) (d : DB) (h : getDb master s t = d) :
    exec master s (es.map (.edit t)) = [] ∧ getDb master (finalState master s (es.map (.edit t))) t = es.foldl (fun d f => f d) d := by
  induction es generalizing s d with
  | nil => exact ⟨rfl, h⟩
  | cons f fs ih =>
    subst h
    -- on `.edit t f :: _` both `exec` and `finalState` unfold by definition to the run from the edited slot, so the goal is `ih` there
    exact ih (setSlot s t (some (f (getDb master s t)))) _ (by simp [getDb, setSlot])

/-- one target processed by the worker (`targetSteps`: reset, edits, render, reset): whatever the shared state was, the report is rendered from
    `singleRun master edits`, and the thread's slot is empty again afterwards -/
theorem target_alone (master : DB) (t : Tid) (x : Nat) (es : List (DB → DB)) (rest : List Step) (s : Shared) :
    ∃ s', exec master s (targetSteps t x es ++ rest) = (t, x, singleRun master es) :: exec master s' rest ∧ s' t = none := by
  obtain ⟨he, hg⟩ := edits_run master t es (setSlot s t none) master (by simp [getDb, setSlot])
  refine ⟨setSlot (setSlot (finalState master (setSlot s t none) (es.map (.edit t))) t (some (singleRun master es))) t none, ?_, by simp [setSlot]⟩
  unfold targetSteps
  simp only [List.append_assoc, List.cons_append, List.nil_append]
  -- the reset and the edits show nothing; the render shows the database the edits left, which `hg` names
  show exec master (setSlot s t none) (es.map (.edit t) ++ .render t x :: .threadExit t :: rest) = _
  rw [exec_append_noobs master _ _ _ he, singleRun, ← hg]
  rfl

/-- **A worker's reports are exactly the single-target runs of its targets, in order** — from any initial shared state -/
theorem worker_alone (master : DB) (t : Tid) (targets : List (Nat × List (DB → DB))) (s : Shared) :
    exec master s (workerSteps t targets) = targets.map (fun xe => (t, xe.1, singleRun master xe.2)) := by
  induction targets generalizing s with
  | nil => rfl
  | cons xe rest ih =>
    obtain ⟨x, es⟩ := xe
    unfold workerSteps
    obtain ⟨s', he, _⟩ := target_alone master t x es (workerSteps t rest) s
    rw [he, ih s']
    rfl

/-- **Multi-target = single-target**: in every interleaving of the workers' programs (any thread count, any assignment
    and order of targets, any schedule, any prior state), each target's report is rendered from exactly the database a
    fresh single-target invocation would use. -/
theorem multi_equals_single (master : DB) (s : Shared) (steps : List Step) (assign : Tid → List (Nat × List (DB → DB)))
    (hint : ∀ t, steps.filter (·.tid = t) = workerSteps t (assign t)) (t : Tid) :
    (exec master s steps).filter (·.1 = t) = (assign t).map (fun xe => (t, xe.1, singleRun master xe.2)) := by
  rw [interleaving_irrelevant master t steps s s rfl, hint t, worker_alone]

/-- a worker without the reset: no `thread_exit` between targets -/
def targetStepsOld (t : Tid) (target : Nat) (edits : List (DB → DB)) : List Step :=
  edits.map (.edit t) ++ [.render t target]

def demoMaster : DB := [(['e','n','c'], [{ name := ['x'], desc := [[]] }])]
def markX : DB → DB := fun db => db.map (fun (c, es) => (c, es.map (fun e => { e with desc := e.desc ++ [[some ['!']]] })))

/-- without the reset the second target is rendered from the first target's edited database (D03) -/
theorem leak_without_reset :
    exec demoMaster (fun _ => none) (targetStepsOld 0 1 [markX] ++ targetStepsOld 0 2 [])
      ≠ [(0, 1, singleRun demoMaster [markX]), (0, 2, singleRun demoMaster [])] := by decide +kernel

example : exec demoMaster (fun _ => none) (workerSteps 0 [(1, [markX]), (2, [])])
      = [(0, 1, singleRun demoMaster [markX]), (0, 2, singleRun demoMaster [])] :=
  worker_alone demoMaster 0 [(1, [markX]), (2, [])] _

end SshAudit.C07
