/-
  C17 — The tool's knowledge tables agree with each other.

  Translator route: the tables are `SshAudit.Gen.*`, which `harness/translate.py` regenerates from /repo on every run.  The table
  facts are sweeps by `decide +kernel` over the whole (finite) tables, so the kernel re-checks them against what the code says; no
  sampling: each `∀ … ∈ table` ranges over every entry.  The other theorems are what follows from such sweeps: a short argument over
  one (`policy_names_known`, `broken_primitive_failed₂`, `entry_shape₂`), or — the two about `Report.report` for the peer a built-in
  policy describes — the sweep `policy_name_clean` carried through `Report.report_clean`.
-/
import SshAudit.Lemmas.GenDB
import SshAudit.Lemmas.DB
import SshAudit.Gen.KexDB
import SshAudit.Gen.Policies
import SshAudit.Gen.Tables
import SshAudit.Lemmas.Report
namespace SshAudit.C17
open SshAudit SshAudit.Gen SshAudit.DBm SshAudit.Text

def s (x : String) : Str := x.toList

def kexC : Str := ['k','e','x']
def keyC : Str := ['k','e','y']
def encC : Str := ['e','n','c']
def macC : Str := ['m','a','c']
def autC : Str := ['a','u','t']

def known (c n : Str) : Bool := (keys ssh2db c).contains n
def notFailing (c n : Str) : Bool :=
  match lookup ssh2db c n with
  | some e => (fails e).isEmpty
  | none => false

def olist (o : Option (List Str)) : List Str := o.getD []

/-- every (category, name) pair a built-in policy mentions -/
def policyNames (p : BuiltinPolicy) : List (Str × Str) :=
  (olist p.kex).map (kexC, ·) ++ (olist p.hostKeys).map (keyC, ·) ++ (olist p.optionalHostKeys).map (keyC, ·)
  ++ (olist p.ciphers).map (encC, ·) ++ (olist p.macs).map (macC, ·)

def policySizeKeys (p : BuiltinPolicy) : List (Str × Str) :=
  ((p.hostkeySizes.getD []).map (fun h => (keyC, h.keyType))) ++ ((p.dhModulusSizes.getD []).map (fun d => (kexC, d.1)))

theorem known_of_notFailing {c n : Str} (h : notFailing c n = true) : known c n = true := by
  unfold notFailing at h
  split at h
  · next e he => exact List.contains_iff_mem.mpr ((mem_keys_iff ssh2db c n).mpr ⟨e, he⟩)
  · cases h

/-- No built-in policy requires or permits an algorithm the database rates as a failure. -/
theorem policy_names_not_failing :
    ∀ p ∈ builtinPolicies, ∀ cn ∈ policyNames p, notFailing cn.1 cn.2 = true := by
  decide +kernel

/-- Every algorithm named by a built-in policy (lists and size maps) is a database key. -/
theorem policy_names_known :
    ∀ p ∈ builtinPolicies, ∀ cn ∈ policyNames p ++ policySizeKeys p, known cn.1 cn.2 = true := by
  have sizes : ∀ p ∈ builtinPolicies, ∀ cn ∈ policySizeKeys p, known cn.1 cn.2 = true := by decide +kernel
  intro p hp cn hcn
  rcases List.mem_append.mp hcn with h | h
  · exact known_of_notFailing (policy_names_not_failing p hp cn h)
  · exact sizes p hp cn h

/-- a host-key size at or above the "no size note" thresholds of C11/C12 (RSA ≥ 3072, Ed25519 ≥ 256, CA likewise) -/
def sizeOk (h : HostKeySize) : Bool :=
  (if startsWith h.keyType (s "ssh-ed25519") || startsWith h.keyType (s "sk-ssh-ed25519") then h.hostkeySize ≥ 256 else h.hostkeySize ≥ 3072)
  && (h.caKeySize = 0 || (if startsWith h.caKeyType (s "ssh-ed25519") then h.caKeySize ≥ 256 else h.caKeySize ≥ 3072))

/-- The sizes built-in policies list sit at or above those thresholds (GEX ≥ 3072), so a peer configured exactly per
    the policy collects no size failure either. -/
theorem policy_sizes_clean :
    ∀ p ∈ builtinPolicies, (∀ h ∈ p.hostkeySizes.getD [], sizeOk h = true) ∧ (∀ d ∈ p.dhModulusSizes.getD [], d.2 ≥ 3072) := by
  decide +kernel

/-- the peer a built-in policy describes: its lists as advertised lists, its size maps as the measured sizes
    (`withOptional`: the optional host keys are offered too) -/
def peerOf (p : BuiltinPolicy) (withOptional : Bool) : Report.Peer :=
  { kex := olist p.kex, key := olist p.hostKeys ++ (if withOptional then olist p.optionalHostKeys else []),
    encC := olist p.ciphers, encS := olist p.ciphers, macC := olist p.macs, macS := olist p.macs, compS := olist p.compressions,
    hostKeys := (p.hostkeySizes.getD []).map (fun h => (h.keyType, { size := h.hostkeySize, caType := h.caKeyType, caSize := h.caKeySize })),
    dhSizes := p.dhModulusSizes.getD [] }

/-- every name of a built-in policy is clean where `output_algorithm` looks it up (a `gss-` key exchange under its wildcard entry) -/
theorem policy_name_clean (p : BuiltinPolicy) (hp : p ∈ builtinPolicies) (c n : Str) (h : (c, n) ∈ policyNames p) : Report.Clean ssh2db c n := by
  have sweep : ∀ p ∈ builtinPolicies, ∀ cn ∈ policyNames p, notFailing cn.1 (Report.gssNormalize cn.1 cn.2) = true := by
    decide +kernel
  have hnf := sweep p hp (c, n) h
  unfold notFailing at hnf
  split at hnf
  · next e he => exact ⟨e, he, List.isEmpty_iff.mp hnf⟩
  · cases hnf

theorem builtin_peer_report (p : BuiltinPolicy) (hp : p ∈ builtinPolicies) (opt : Bool) (sw : Option Str) :
    let r := Report.report rsaFamily ssh2db (peerOf p opt) (!p.serverPolicy) sw none []
    r.status ≠ 3 ∧ r.unknown = [] := by
  have hc : Report.kexC = kexC ∧ Report.keyC = keyC ∧ Report.encC = encC ∧ Report.macC = macC := by decide
  refine Report.report_clean _ _ _ _ _ _ _ (fun n hn => ?_) (fun n hn => ?_) (fun n hn => ?_) (fun n hn => ?_)
  all_goals
    refine policy_name_clean p hp _ n ?_
    simp only [hc, policyNames, peerOf, List.mem_append, List.mem_map, Prod.mk.injEq, true_and, exists_eq_right] at hn ⊢
  -- each goal: `n` is among the policy's key exchanges, host keys, optional host keys, ciphers or MACs; `hn` names the part
  · simp only [hn, true_or]
  · rcases hn with hkey | hopt
    · simp only [hkey, true_or, or_true]
    · split at hopt
      · simp only [hopt, true_or, or_true]
      · cases hopt
  · simp only [hn, true_or, or_true]
  · simp only [hn, or_true]

/-- **The report the model renders for the peer of every built-in policy (every version, server and client, with and
    without the optional host keys, OpenSSH banner or none) carries no failure**: its status is never 3. The database the
    report starts from is the master database because, by `policy_sizes_clean`, probing such a peer adds no size note
    (thresholds of C11/C12); the Terrapin and fallback edits of `post_process_findings` are part of `Report.report`. -/
theorem builtin_peer_no_fail :
    ∀ p ∈ builtinPolicies, ∀ opt ∈ [true, false], ∀ sw ∈ [none, some (s "OpenSSH_9.9")],
      (Report.report rsaFamily ssh2db (peerOf p opt) (!p.serverPolicy) sw none []).status ≠ 3 :=
  fun p hp opt _ sw _ => (builtin_peer_report p hp opt sw).1

/-- … and nothing in it is unknown to the database -/
theorem builtin_peer_all_known :
    ∀ p ∈ builtinPolicies, ∀ opt ∈ [true, false],
      (Report.report rsaFamily ssh2db (peerOf p opt) (!p.serverPolicy) none none []).unknown = [] :=
  fun p hp opt _ => (builtin_peer_report p hp opt none).2

/-- Host-key probe table ⊆ database. -/
theorem hostkey_types_known : ∀ h ∈ hostKeyTypes, known keyC h.name = true := by decide +kernel

/-- The RSA family and the probe-dispatch tables name database keys. -/
theorem probe_tables_known :
    (∀ n ∈ rsaFamily, known keyC n = true) ∧ (∀ n ∈ kexToDhgroupKeys, known kexC n = true)
    ∧ (∀ n ∈ gexAlgs, known kexC n = true) := by decide +kernel

/-- Denial-of-service test tables ⊆ database. -/
theorem dheat_names_known :
    ∀ n ∈ dheatGexAlgs ++ dheatAlgPriority ++ dheatTestedAlgs ++ dheatAlgModulusSizes.map (·.1), known kexC n = true := by
  decide +kernel

/-- `alg_priority` and `alg_modulus_sizes` have the same key set. -/
theorem dheat_tables_consistent :
    (∀ n ∈ dheatAlgPriority, (dheatAlgModulusSizes.map (·.1)).contains n = true)
    ∧ (∀ n ∈ dheatAlgModulusSizes.map (·.1), dheatAlgPriority.contains n = true) := by decide +kernel

/-- Tokens of primitives the database brands as broken. -/
def brokenTokens : List Str :=
  ["md5","sha1","arcfour","rc4","des","none","dss","group1-","1024","nistp","nistk","nistb","nistt","ripemd",
   "blowfish","cast","idea","seed","serpent","rijndael","gost","null"].map s

/-- `dsa` not preceded by `ec`. -/
def hasPlainDsa : Str → Bool
  | [] => false
  | x :: xs =>
    if startsWith (x :: xs) (s "ecdsa") then hasPlainDsa (xs.drop 4)
    else startsWith (x :: xs) (s "dsa") || hasPlainDsa xs
termination_by l => l.length
decreasing_by all_goals simp_wf <;> omega

def mentionsBroken (n : Str) : Bool :=
  let l := lower n
  brokenTokens.any (fun t => hasSub t l) || hasPlainDsa l

/-- SSH-2 database: every entry whose name contains a broken primitive carries ≥ 1 failure. -/
theorem broken_primitive_failed₂ :
    ∀ ce ∈ ssh2db, ∀ e ∈ ce.2, mentionsBroken e.name = true → (fails e).isEmpty = false := by
  -- evaluated in the contrapositive: only the names of entries without a failure have to be scanned
  have h : ∀ ce ∈ ssh2db, ∀ e ∈ ce.2, (fails e).isEmpty = true → mentionsBroken e.name = false := by decide +kernel
  exact fun ce hce e he hm => Bool.eq_false_iff.mpr fun hf => Bool.false_ne_true ((h ce hce e he hf).symm.trans hm)

/-- documented shape of an entry: 1–4 lists; no `None` among the notes -/
def shapeOk (e : Entry) : Bool :=
  1 ≤ e.desc.length && e.desc.length ≤ 4 && (e.desc.drop 1).all (fun l => l.all Option.isSome)

/-- Every entry has the documented shape, and the names of a category are unique. -/
theorem entry_shape₂ : ∀ ce ∈ ssh2db, (∀ e ∈ ce.2, shapeOk e = true) ∧ (ce.2.map (·.name)).Nodup := by
  have h : ∀ ce ∈ ssh2db, ∀ e ∈ ce.2, shapeOk e = true := by decide +kernel
  exact fun ce hce => ⟨h ce hce, ssh2db_names_nodup ce hce⟩
theorem entry_shape₁ : ∀ ce ∈ ssh1db, (∀ e ∈ ce.2, shapeOk e = true) ∧ (ce.2.map (·.name)).Nodup := by
  decide +kernel

/-- The four SSH-2 categories exist, in the documented order. -/
theorem categories₂ : ssh2db.map (·.1) = [kexC, keyC, encC, macC] := by decide +kernel
theorem categories₁ : ssh1db.map (·.1) = [keyC, encC, autC] := by decide +kernel

/-- KNOWN FINDING D22 (negation, with witnesses): the SSH-1 database rates `3des`, `blowfish`
    and `idea` with no failure although the SSH-2 database brands these primitives as broken. -/
theorem broken_primitive_failed₁_false :
    ¬ (∀ ce ∈ ssh1db, ∀ e ∈ ce.2, mentionsBroken e.name = true → (fails e).isEmpty = false) := by
  decide +kernel

/-- the three names of finding D22 -/
def d22 : List Str := ["3des","blowfish","idea"].map s
/-- …and those three are the *only* exceptions (partial form of the full statement). -/
theorem broken_primitive_failed₁_partial :
    ∀ ce ∈ ssh1db, ∀ e ∈ ce.2, mentionsBroken e.name = true → ¬ (e.name ∈ d22) → (fails e).isEmpty = false := by
  decide +kernel

example : mentionsBroken (s "ecdsa-sha2-nistp256") = true ∧ mentionsBroken (s "ssh-ed25519") = false
    ∧ hasPlainDsa (s "ecdsa-x") = false ∧ hasPlainDsa (s "ssh-dsa") = true := by
  unfold s
  decode_literals
  decide +kernel
example : ∃ p ∈ builtinPolicies, (policyNames p).length > 10 := by decide +kernel

end SshAudit.C17
