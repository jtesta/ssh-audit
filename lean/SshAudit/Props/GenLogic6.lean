/-
  Regenerated logic, sixth unit: `SSH2_Kex.write` / `.parse` and `SSH1_PublicKeyMessage.write` / `.parse` (C10).  Each is a straight-line procedure of
  calls of `WriteBuf` / `ReadBuf` methods (external: parameters over an abstract buffer state), in the order of the source, each with the attribute
  it is handed (the properties of `SSH2_Kex` / `SSH2_KexParty` are read as plain attributes; the objects and tuples built from the locals afterwards
  are outside the selection).  The theorems instantiate the methods with the model's writers and readers on the state `Except Exn Bytes` (an
  exception is the error state, which every later call leaves as it is; names go through an arbitrary `enc` / `dec`) and say that the procedures are
  `Wire.kexWrite`, `kexParse`, `pkmWrite`, `pkmParse`: two fields swapped, one written twice or one left out in the source, and the theorem does not
  check.

  The writers are the same chain of binds on both sides (monad laws); the parsers are walked read by read.  Nothing follows the names of the
  generated locals; both depend on the procedures being straight-line sequences of external calls.
-/
import SshAudit.Gen.Logic6
import SshAudit.Lemmas.SimpSets
import SshAudit.Model.Wire
import SshAudit.Props.C10
set_option linter.unusedSimpArgs false
namespace SshAudit.GenLogic
open SshAudit

/-- `wbuf.write(b)` on the model's buffer state -/
def xWrite (st : Wire.W) (b : Bytes) : Wire.W := do let acc ← st; pure (acc ++ b)
/-- `wbuf.write_list(names)` -/
def xWriteList (enc : Str → Bytes) (st : Wire.W) (names : List Str) : Wire.W := do
  let acc ← st; let x ← Wire.writeList (names.map enc); pure (acc ++ x)
/-- `wbuf.write_bool(v)` -/
def xWriteBool (st : Wire.W) (v : Bool) : Wire.W := do let acc ← st; pure (acc ++ Wire.writeBool v)
/-- `wbuf.write_int(v)` (`struct.pack('>I', v)` raises for a negative value too) -/
def xWriteInt (st : Wire.W) (v : Int) : Wire.W := do
  let acc ← st; let x ← (if 0 ≤ v then Wire.writeInt v.toNat else .error .struct); pure (acc ++ x)

theorem kex_write_eq_model (enc : Str → Bytes) (cookie : Bytes) (kex key encC encS macC macS compC compS langC langS : List Str)
    (follows : Bool) (unused : Nat) :
    (Gen.Logic.kex_write xWrite (xWriteList enc) xWriteBool xWriteInt (.ok []) cookie kex key encC encS macC macS compC compS langC langS
        follows (unused : Int)).2
      = Wire.kexWrite { cookie := cookie, kex := kex.map enc, key := key.map enc, encC := encC.map enc, encS := encS.map enc,
                        macC := macC.map enc, macS := macS.map enc, compC := compC.map enc, compS := compS.map enc,
                        langC := langC.map enc, langS := langS.map enc, follows := follows, unused := unused } := by
  -- both sides are the same chain of writers, the regenerated one threading the bytes through the state: monad laws
  simp only [Gen.Logic.kex_write, Wire.kexWrite, xWrite, xWriteList, xWriteBool, xWriteInt, Int.natCast_nonneg, if_true, Int.toNat_natCast,
    bind_assoc, pure_bind, Wire.ok_bind, List.nil_append]

example : (Gen.Logic.kex_write xWrite (xWriteList (fun s => s.map (fun c => UInt8.ofNat c.toNat))) xWriteBool xWriteInt (.ok [])
      [1, 2] ["a".toList, "bc".toList] [] [] [] [] [] [] [] [] [] true 7).2
    = .ok [1, 2, 0, 0, 0, 4, 97, 44, 98, 99, 0, 0, 0, 0, 0, 0, 0, 0, 0, 0, 0, 0, 0, 0, 0, 0, 0, 0, 0, 0, 0, 0, 0, 0, 0, 0, 0, 0, 0, 0, 0, 0, 0, 0, 0, 0, 1, 0, 0, 0, 7] := by
  decide +kernel

/-- the model's reading state: the unread bytes, or the exception that was raised (the same type as `Wire.W`, the model's name for what a
    writer returns) -/
abbrev R := Except Exn Bytes

/-- `buf.read(n)` (clamps; `n` is a literal: 16 for the KEXINIT cookie, 8 for the SSH-1 one) -/
def xRead (st : R) (n : Int) : Bytes × R :=
  match st with
  | .ok bs => ((Wire.read n.toNat bs).1, .ok (Wire.read n.toNat bs).2)
  | .error e => ([], .error e)
/-- `buf.read_list()`: the names, each decoded by `dec` -/
def xReadList (dec : Bytes → Str) (st : R) : List Str × R :=
  match st with
  | .ok bs => (match Wire.readList bs with
      | .ok (l, r) => (l.map dec, .ok r)
      | .error e => ([], .error e))
  | .error e => ([], .error e)
/-- `buf.read_bool()` -/
def xReadBool (st : R) : Bool × R :=
  match st with
  | .ok bs => (match Wire.readBool bs with
      | .ok (b, r) => (b, .ok r)
      | .error e => (false, .error e))
  | .error e => (false, .error e)
/-- `buf.read_int()` -/
def xReadInt (st : R) : Int × R :=
  match st with
  | .ok bs => (match Wire.readInt bs with
      | .ok (v, r) => ((v : Int), .ok r)
      | .error e => (0, .error e))
  | .error e => (0, .error e)

/- The equations of the readers, under the simp set `xread` (`Lemmas/SimpSets.lean`): after each read of the parser theorems the error case is closed by
   `simp only [xread, bind, Except.bind, *]` — what each reader returns on a buffer and on an exception, and the results so far (`*`). -/
@[xread] theorem xRead_ok (bs : Bytes) (n : Int) : xRead (.ok bs) n = ((Wire.read n.toNat bs).1, .ok (Wire.read n.toNat bs).2) := rfl
@[xread] theorem xReadList_error (dec : Bytes → Str) (e : Exn) : xReadList dec (.error e) = ([], .error e) := rfl
@[xread] theorem xReadList_ok (dec : Bytes → Str) (bs : Bytes) : xReadList dec (.ok bs) =
    match Wire.readList bs with
    | .ok (l, r) => (l.map dec, .ok r)
    | .error e => ([], .error e) := rfl
@[xread] theorem xReadBool_error (e : Exn) : xReadBool (.error e) = (false, .error e) := rfl
@[xread] theorem xReadBool_ok (bs : Bytes) : xReadBool (.ok bs) =
    match Wire.readBool bs with
    | .ok (b, r) => (b, .ok r)
    | .error e => (false, .error e) := rfl
@[xread] theorem xReadInt_error (e : Exn) : xReadInt (.error e) = (0, .error e) := rfl
@[xread] theorem xReadInt_ok (bs : Bytes) : xReadInt (.ok bs) =
    match Wire.readInt bs with
    | .ok (v, r) => ((v : Int), .ok r)
    | .error e => (0, .error e) := rfl

/-- `SSH2_Kex.parse` as regenerated, run on the model's readers, against `Wire.kexParse`: when the model parses the payload, the thirteen locals
    are the model's fields in the model's order (names decoded one by one) and no exception was raised; when the model raises, so does the
    procedure (the state it ends in is that exception) -/
theorem kex_parse_eq_model (dec : Bytes → Str) (bs : Bytes) :
    match Wire.kexParse bs with
    | .ok k => ∃ rest, Gen.Logic.kex_parse xRead (xReadList dec) xReadBool xReadInt (.ok bs)
        = (some (k.cookie, k.kex.map dec, k.key.map dec, k.encC.map dec, k.encS.map dec, k.macC.map dec, k.macS.map dec,
                 k.compC.map dec, k.compS.map dec, k.langC.map dec, k.langS.map dec, k.follows, (k.unused : Int)), .ok rest)
    | .error e => (Gen.Logic.kex_parse xRead (xReadList dec) xReadBool xReadInt (.ok bs)).2 = .error e := by
  unfold Wire.kexParse Gen.Logic.kex_parse
  have h16 : (16 : Int).toNat = 16 := rfl
  simp only [xRead_ok, Wire.read, h16]
  rcases h1 : Wire.readList (List.drop 16 bs) with e | ⟨l1, r1⟩
  · simp only [xread, bind, Except.bind, *]
  rcases h2 : Wire.readList r1 with e | ⟨l2, r2⟩
  · simp only [xread, bind, Except.bind, *]
  rcases h3 : Wire.readList r2 with e | ⟨l3, r3⟩
  · simp only [xread, bind, Except.bind, *]
  rcases h4 : Wire.readList r3 with e | ⟨l4, r4⟩
  · simp only [xread, bind, Except.bind, *]
  rcases h5 : Wire.readList r4 with e | ⟨l5, r5⟩
  · simp only [xread, bind, Except.bind, *]
  rcases h6 : Wire.readList r5 with e | ⟨l6, r6⟩
  · simp only [xread, bind, Except.bind, *]
  rcases h7 : Wire.readList r6 with e | ⟨l7, r7⟩
  · simp only [xread, bind, Except.bind, *]
  rcases h8 : Wire.readList r7 with e | ⟨l8, r8⟩
  · simp only [xread, bind, Except.bind, *]
  rcases h9 : Wire.readList r8 with e | ⟨l9, r9⟩
  · simp only [xread, bind, Except.bind, *]
  rcases h10 : Wire.readList r9 with e | ⟨l10, r10⟩
  · simp only [xread, bind, Except.bind, *]
  rcases h11 : Wire.readBool r10 with e | ⟨b, r11⟩
  · simp only [xread, bind, Except.bind, *]
  rcases h12 : Wire.readInt r11 with e | ⟨u, r12⟩
  · simp only [xread, bind, Except.bind, *]
  simp only [xread, bind, Except.bind, pure, Except.pure, *]
  exact ⟨_, rfl⟩

/-- writer and reader of the KEXINIT message as regenerated from the source, composed: a well-formed message (16-byte cookie, non-empty lists of
    comma-free names, `dec ∘ enc = id` on names, `unused` a 32-bit value that the writer accepts) written by the regenerated `SSH2_Kex.write` is read
    back field by field by the regenerated `SSH2_Kex.parse` -/
theorem regenerated_kexinit_roundtrip (enc : Str → Bytes) (dec : Bytes → Str) (hde : ∀ s, dec (enc s) = s)
    (cookie : Bytes) (kex key encC encS macC macS compC compS langC langS : List Str) (follows : Bool) (unused : Nat) (bs : Bytes)
    (hwf : C10.KexWF { cookie := cookie, kex := kex.map enc, key := key.map enc, encC := encC.map enc, encS := encS.map enc,
                       macC := macC.map enc, macS := macS.map enc, compC := compC.map enc, compS := compS.map enc,
                       langC := langC.map enc, langS := langS.map enc, follows := follows, unused := unused })
    (hw : (Gen.Logic.kex_write xWrite (xWriteList enc) xWriteBool xWriteInt (.ok []) cookie kex key encC encS macC macS compC compS langC langS
            follows (unused : Int)).2 = .ok bs) :
    ∃ rest, Gen.Logic.kex_parse xRead (xReadList dec) xReadBool xReadInt (.ok bs)
      = (some (cookie, kex, key, encC, encS, macC, macS, compC, compS, langC, langS, follows, (unused : Int)), .ok rest) := by
  rw [kex_write_eq_model] at hw
  have hp := C10.kexinit_rt _ bs hwf hw
  have h := kex_parse_eq_model dec bs
  rw [hp] at h
  have hm (l : List Str) : (l.map enc).map dec = l := by
    rw [List.map_map]
    exact (List.map_congr_left fun s _ => hde s).trans (List.map_id l)
  simpa only [hm] using h

/-- the hypotheses are met: a concrete message goes through the regenerated writer and comes back through the regenerated reader -/
example : ∃ bs, (Gen.Logic.kex_write xWrite (xWriteList (fun s => s.map (fun c => UInt8.ofNat c.toNat))) xWriteBool xWriteInt (.ok [])
        (List.replicate 16 7) ["a".toList, "bc".toList] ["k".toList] ["e".toList] ["f".toList] ["m".toList] ["n".toList] ["none".toList] ["zlib".toList]
        ["".toList] ["".toList] true 9).2 = .ok bs
      ∧ (Gen.Logic.kex_parse xRead (xReadList (fun b => b.map (fun x => Char.ofNat x.toNat))) xReadBool xReadInt (.ok bs)).1
        = some (List.replicate 16 7, ["a".toList, "bc".toList], ["k".toList], ["e".toList], ["f".toList], ["m".toList], ["n".toList], ["none".toList],
                ["zlib".toList], ["".toList], ["".toList], true, 9) :=
  ⟨_, rfl, rfl⟩

/-- `wbuf.write_mpint1(v)` (the code accepts any integer: `Wire.writeMpint1Z`) -/
def xWriteMpint1 (st : Wire.W) (v : Int) : Wire.W := do
  let acc ← st; let x ← Wire.writeMpint1Z v; pure (acc ++ x)
/-- `buf.read_mpint1()` -/
def xReadMpint1 (st : R) : Int × R :=
  match st with
  | .ok bs => (match Wire.readMpint1 bs with
      | .ok (v, r) => ((v : Int), .ok r)
      | .error e => (0, .error e))
  | .error e => (0, .error e)

@[xread] theorem xReadMpint1_error (e : Exn) : xReadMpint1 (.error e) = (0, .error e) := rfl
@[xread] theorem xReadMpint1_ok (bs : Bytes) : xReadMpint1 (.ok bs) =
    match Wire.readMpint1 bs with
    | .ok (v, r) => ((v : Int), .ok r)
    | .error e => (0, .error e) := rfl

theorem pkm_write_eq_model (p : Wire.Pkm) :
    (Gen.Logic.pkm_write xWrite xWriteInt xWriteMpint1 (.ok []) p.cookie (p.skBits : Int) (p.skE : Int) (p.skN : Int) (p.hkBits : Int) (p.hkE : Int) (p.hkN : Int)
        (p.pflags : Int) (p.cmask : Int) (p.amask : Int)).2 = Wire.pkmWrite p := by
  simp only [Gen.Logic.pkm_write, Wire.pkmWrite, xWrite, xWriteInt, xWriteMpint1, Int.natCast_nonneg, if_true, Int.toNat_natCast,
    C10.writeMpint1Z_nat, bind_assoc, pure_bind, Wire.ok_bind, List.nil_append]

theorem pkm_parse_eq_model (bs : Bytes) :
    match Wire.pkmParse bs with
    | .ok p => ∃ rest, Gen.Logic.pkm_parse xRead xReadInt xReadMpint1 (.ok bs)
        = (some (p.cookie, (p.skBits : Int), (p.skE : Int), (p.skN : Int), (p.hkBits : Int), (p.hkE : Int), (p.hkN : Int), (p.pflags : Int), (p.cmask : Int),
                 (p.amask : Int)), .ok rest)
    | .error e => (Gen.Logic.pkm_parse xRead xReadInt xReadMpint1 (.ok bs)).2 = .error e := by
  unfold Wire.pkmParse Gen.Logic.pkm_parse
  have h8 : (8 : Int).toNat = 8 := rfl
  simp only [xRead_ok, Wire.read, h8]
  rcases h1 : Wire.readInt (List.drop 8 bs) with e | ⟨v1, r1⟩
  · simp only [xread, bind, Except.bind, *]
  rcases h2 : Wire.readMpint1 r1 with e | ⟨v2, r2⟩
  · simp only [xread, bind, Except.bind, *]
  rcases h3 : Wire.readMpint1 r2 with e | ⟨v3, r3⟩
  · simp only [xread, bind, Except.bind, *]
  rcases h4 : Wire.readInt r3 with e | ⟨v4, r4⟩
  · simp only [xread, bind, Except.bind, *]
  rcases h5 : Wire.readMpint1 r4 with e | ⟨v5, r5⟩
  · simp only [xread, bind, Except.bind, *]
  rcases h6 : Wire.readMpint1 r5 with e | ⟨v6, r6⟩
  · simp only [xread, bind, Except.bind, *]
  rcases h7 : Wire.readInt r6 with e | ⟨v7, r7⟩
  · simp only [xread, bind, Except.bind, *]
  rcases h8' : Wire.readInt r7 with e | ⟨v8, r8⟩
  · simp only [xread, bind, Except.bind, *]
  rcases h9 : Wire.readInt r8 with e | ⟨v9, r9⟩
  · simp only [xread, bind, Except.bind, *]
  simp only [xread, bind, Except.bind, pure, Except.pure, *]
  exact ⟨_, rfl⟩

/-- SSH-1 public-key message: regenerated `write`, then regenerated `parse`, gives the message back (8-byte cookie, a message the writer accepts) -/
theorem regenerated_pkm_roundtrip (p : Wire.Pkm) (bs : Bytes) (hc : p.cookie.length = 8)
    (hw : (Gen.Logic.pkm_write xWrite xWriteInt xWriteMpint1 (.ok []) p.cookie (p.skBits : Int) (p.skE : Int) (p.skN : Int) (p.hkBits : Int) (p.hkE : Int)
            (p.hkN : Int) (p.pflags : Int) (p.cmask : Int) (p.amask : Int)).2 = .ok bs) :
    ∃ rest, Gen.Logic.pkm_parse xRead xReadInt xReadMpint1 (.ok bs)
      = (some (p.cookie, (p.skBits : Int), (p.skE : Int), (p.skN : Int), (p.hkBits : Int), (p.hkE : Int), (p.hkN : Int), (p.pflags : Int), (p.cmask : Int),
               (p.amask : Int)), .ok rest) := by
  rw [pkm_write_eq_model] at hw
  have h := pkm_parse_eq_model bs
  rw [C10.pkm_rt p bs hc hw] at h
  exact h

end SshAudit.GenLogic
