/-
  C05 — A policy made from a target passes on that target and fails on any drift.

  `policyOf peer` is what `Policy.create` + the policy-file parser yield for a peer (exact-match
  flags, no banner/compression/optional lists; sizes normalised as `_normalize_hostkey_sizes`
  does).  That the text `Policy.create` writes parses to `policyOf peer` is `Props/C05File.lean`.
-/
import SshAudit.Props.C06
import SshAudit.Gen.Policies
namespace SshAudit.C05
open SshAudit SshAudit.Pol SshAudit.C06

theorem lookup_map {α β} (l : List (Str × α)) (f : α → β) (t : Str) :
    lookup (l.map (fun kv => (kv.1, f kv.2))) t = (lookup l t).map f := Pol.lookup_map l f t

/-- `peer'` shows what the made policy records of `peer`: the four lists, and the same size for every key type / group both measured (CA type
    and size too where the maker's key had a CA) -/
structure Agrees (peer peer' : Peer) : Prop where
  key : peer'.key = peer.key
  kex : peer'.kex = peer.kex
  enc : peer'.enc = peer.enc
  mac : peer'.mac = peer.mac
  hostKey : ∀ t a a', lookup peer.hostKeys t = some a → lookup peer'.hostKeys t = some a' →
    a'.size = a.size ∧ (a.caType ≠ [] ∧ 0 < a.caSize → a'.caType = a.caType ∧ a'.caSize = a.caSize)
  dh : ∀ t a a', lookup peer.dhSizes t = some a → lookup peer'.dhSizes t = some a' → a' = a

/-- a peer without KEXINIT is only asked for the banner, which the made policy does not record: hence the premise -/
theorem satisfied_policyOf_iff (peer peer' : Peer) : Satisfied (policyOf peer) peer' ↔ (peer'.hasKex = true → Agrees peer peer') := by
  -- the made policy sets six fields; the other clauses of `Satisfied` are vacuous
  have nf : Satisfied (policyOf peer) peer' ↔ (peer'.hasKex = true →
      peer'.key = peer.key ∧
      (peer.hostKeys ≠ [] → ∀ t exp act, lookup (peer.hostKeys.map fun kv => (kv.1, normHKS kv.2)) t = some exp →
        lookup peer'.hostKeys t = some act →
        act.size = exp.size ∧ (exp.caType ≠ [] → 0 < exp.caSize → act.caType = exp.caType ∧ act.caSize = exp.caSize)) ∧
      peer'.kex = peer.kex ∧ peer'.enc = peer.enc ∧ peer'.mac = peer.mac ∧
      (peer.dhSizes ≠ [] → ∀ t exp act, lookup peer.dhSizes t = some exp → lookup peer'.dhSizes t = some act → act = exp)) := by
    unfold Satisfied
    -- the clauses of the fields `policyOf` leaves `none` (banner, compressions) hold vacuously, the six others get their value
    simp only [policyOf, reduceCtorEq, false_implies, implies_true, Option.some.injEq, forall_eq', Option.ite_none_left_eq_some, and_true, true_and]
    -- exact mode (`allowSubset`, `allowLarger` false; no optional host keys): every check is an equality
    simp only [listOk, sizeOk, prunedKeys, Bool.false_eq_true, ↓reduceIte, and_imp, forall_apply_eq_imp_iff, ne_eq]
  rw [nf]
  refine imp_congr_right fun _ => ⟨?_, fun h => ?_⟩
  · rintro ⟨hkey, hhk, hkex, henc, hmac, hdh⟩
    refine ⟨hkey, hkex, henc, hmac, fun t a a' ha ha' => ?_, fun t a a' ha ha' => hdh (lookup_ne_nil ha) t a a' ha ha'⟩
    obtain ⟨hs, hc⟩ := hhk (lookup_ne_nil ha) t (normHKS a) a' (by rw [lookup_map, ha]; rfl) ha'
    exact ⟨hs.trans (normHKS_size a), (normHKS_ca a fun ct cs => a'.caType = ct ∧ a'.caSize = cs).mp fun h => hc h.1 h.2⟩
  · refine ⟨h.key, fun _ t e a' he ha' => ?_, h.kex, h.enc, h.mac, fun _ t a a' ha ha' => h.dh t a a' ha ha'⟩
    rw [lookup_map] at he
    obtain ⟨a, ha, rfl⟩ := Option.map_eq_some_iff.mp he
    obtain ⟨hs, hc⟩ := h.hostKey t a a' ha ha'
    exact ⟨hs.trans (normHKS_size a).symm, fun h1 h2 => (normHKS_ca a fun ct cs => a'.caType = ct ∧ a'.caSize = cs).mpr hc ⟨h1, h2⟩⟩

/-- **The made policy passes on the peer it was made from** — every peer, any lists and sizes. -/
theorem made_policy_passes (peer : Peer) : Satisfied (policyOf peer) peer :=
  (satisfied_policyOf_iff peer peer).mpr fun _ =>
    ⟨rfl, rfl, rfl, rfl, fun t a a' ha ha' => by cases ha.symm.trans ha'; exact ⟨rfl, fun _ => ⟨rfl, rfl⟩⟩,
      fun t a a' ha ha' => by cases ha.symm.trans ha'; rfl⟩

theorem made_policy_verdict (peer : Peer) : (evaluate (policyOf peer) peer []).1 = true ∧ (evaluate (policyOf peer) peer []).2 = [] := by
  have h := (evaluate_iff_satisfied _ _).mpr (made_policy_passes peer)
  exact ⟨h, (passed_iff_no_errors _ _).mp h⟩

theorem agrees_of_passes {peer peer' : Peer} (hk : peer'.hasKex = true) (h : (evaluate (policyOf peer) peer' []).1 = true) :
    Agrees peer peer' :=
  (satisfied_policyOf_iff peer peer').mp ((evaluate_iff_satisfied _ _).mp h) hk

/-- errors are only ever appended -/
def Ext (st st' : St) : Prop := ∃ l, st'.2 = st.2 ++ l

theorem Ext.of_stage {E : PErr → Prop} {ok : Bool} {f : St → St} (h : Stage E ok f) (st : St) : Ext st (f st) :=
  ⟨_, h.snd_eq st⟩

theorem stComp_ext (p : Policy) (peer : Peer) (st : St) : Ext st (stComp p peer st) :=
  Ext.of_stage (stComp_stage p peer) st
theorem stHostKeys_ext (p : Policy) (peer : Peer) (st : St) : Ext st (stHostKeys p peer st) :=
  Ext.of_stage (stHostKeys_stage p peer) st

/-- an exact-mode list step whose two lists differ appends its record -/
theorem mem_stepIf_of_ne {pol act : List Str} (hd : act ≠ pol) (st : St) (f : Str) :
    (⟨f, pol, [[]], act⟩ : PErr) ∈ (stepIf (listBad false pol act act) st f pol none act).2 := by
  simp [listBad, hd, stepIf, failWith]

/-- the made policy is in exact mode: a peer whose list `get` differs from the maker's (insert, delete, reorder — anything) fails,
    and the record of that list's check — expected: the maker's list, actual: the peer's — is among the errors.  Which stage of `evaluate`
    appends the record depends on the list, so `hm` is shown at each use: the stage on `policyOf peer` is one step `mem_stepIf_of_ne` speaks of -/
theorem drift_list {peer peer' : Peer} (hk : peer'.hasKex = true) (f : Str) (get : Peer → List Str)
    (hag : Agrees peer peer' → get peer' = get peer) (hd : get peer' ≠ get peer)
    (hm : (⟨f, get peer, [[]], get peer'⟩ : PErr) ∈ (evaluate (policyOf peer) peer' []).2) :
    (evaluate (policyOf peer) peer' []).1 = false ∧
    ∃ e ∈ (evaluate (policyOf peer) peer' []).2, e.field = f ∧ e.expectedRequired = get peer ∧ e.actual = get peer' :=
  ⟨Bool.eq_false_iff.mpr fun h => hd (hag (agrees_of_passes hk h)), _, hm, rfl, rfl, rfl⟩

theorem drift_kex (peer peer' : Peer) (hk : peer'.hasKex = true) (hd : peer'.kex ≠ peer.kex) :
    (evaluate (policyOf peer) peer' []).1 = false ∧
    ∃ e ∈ (evaluate (policyOf peer) peer' []).2, e.field = s "Key exchanges" ∧ e.expectedRequired = peer.kex ∧ e.actual = peer'.kex := by
  have hm : _ ∈ (stKex (policyOf peer) peer' (true, [])).2 := mem_stepIf_of_ne hd _ (s "Key exchanges")
  exact drift_list hk _ (·.kex) (·.kex) hd ((mem_evaluate _ _ _ _).mpr (by simp [hk, hm]))

theorem drift_ciphers (peer peer' : Peer) (hk : peer'.hasKex = true) (hd : peer'.enc ≠ peer.enc) :
    (evaluate (policyOf peer) peer' []).1 = false ∧
    ∃ e ∈ (evaluate (policyOf peer) peer' []).2, e.field = s "Ciphers" ∧ e.expectedRequired = peer.enc ∧ e.actual = peer'.enc := by
  have hm : _ ∈ (stCiphers (policyOf peer) peer' (true, [])).2 := mem_stepIf_of_ne hd _ (s "Ciphers")
  exact drift_list hk _ (·.enc) (·.enc) hd ((mem_evaluate _ _ _ _).mpr (by simp [hk, hm]))

theorem drift_macs (peer peer' : Peer) (hk : peer'.hasKex = true) (hd : peer'.mac ≠ peer.mac) :
    (evaluate (policyOf peer) peer' []).1 = false ∧
    ∃ e ∈ (evaluate (policyOf peer) peer' []).2, e.field = s "MACs" ∧ e.expectedRequired = peer.mac ∧ e.actual = peer'.mac := by
  have hm : _ ∈ (stMacs (policyOf peer) peer' (true, [])).2 := mem_stepIf_of_ne hd _ (s "MACs")
  exact drift_list hk _ (·.mac) (·.mac) hd ((mem_evaluate _ _ _ _).mpr (by simp [hk, hm]))

theorem drift_hostkeys (peer peer' : Peer) (hk : peer'.hasKex = true) (hd : peer'.key ≠ peer.key) :
    (evaluate (policyOf peer) peer' []).1 = false ∧
    ∃ e ∈ (evaluate (policyOf peer) peer' []).2, e.field = s "Host keys" ∧ e.expectedRequired = peer.key ∧ e.actual = peer'.key := by
  have hm : _ ∈ (stHostKeys (policyOf peer) peer' (true, [])).2 := mem_stepIf_of_ne hd _ (s "Host keys")
  exact drift_list hk _ (·.key) (·.key) hd ((mem_evaluate _ _ _ _).mpr (by simp [hk, hm]))

theorem drift_hostkey_size (peer peer' : Peer) (hk : peer'.hasKex = true) (t : Str) (a a' : HKS)
    (h1 : lookup peer.hostKeys t = some a) (h2 : lookup peer'.hostKeys t = some a') (hd : a'.size ≠ a.size) :
    (evaluate (policyOf peer) peer' []).1 = false :=
  Bool.eq_false_iff.mpr fun h => hd ((agrees_of_passes hk h).hostKey t a a' h1 h2).1

theorem drift_ca (peer peer' : Peer) (hk : peer'.hasKex = true) (t : Str) (a a' : HKS)
    (h1 : lookup peer.hostKeys t = some a) (h2 : lookup peer'.hostKeys t = some a')
    (hca : a.caType ≠ [] ∧ 0 < a.caSize) (hd : a'.caType ≠ a.caType ∨ a'.caSize ≠ a.caSize) :
    (evaluate (policyOf peer) peer' []).1 = false := by
  refine Bool.eq_false_iff.mpr fun h => ?_
  obtain ⟨e1, e2⟩ := ((agrees_of_passes hk h).hostKey t a a' h1 h2).2 hca
  exact hd.elim (fun hd => hd e1) (fun hd => hd e2)

theorem drift_modulus (peer peer' : Peer) (hk : peer'.hasKex = true) (t : Str) (a a' : Nat)
    (h1 : lookup peer.dhSizes t = some a) (h2 : lookup peer'.dhSizes t = some a') (hd : a' ≠ a) :
    (evaluate (policyOf peer) peer' []).1 = false :=
  Bool.eq_false_iff.mpr fun h => hd ((agrees_of_passes hk h).dh t a a' h1 h2)

def ofBuiltin (b : BuiltinPolicy) : Policy :=
  { banner := b.banner, compressions := b.compressions, hostKeys := b.hostKeys, optionalHostKeys := b.optionalHostKeys,
    kex := b.kex, ciphers := b.ciphers, macs := b.macs,
    hostkeySizes := b.hostkeySizes.map (fun l => l.map (fun h => (h.keyType, { size := h.hostkeySize, caType := h.caKeyType, caSize := h.caKeySize }))),
    dhSizes := b.dhModulusSizes }

/-- the peer "configured exactly as the policy lists": its lists, its sizes -/
def peerOfBuiltin (b : BuiltinPolicy) : Peer :=
  { bannerStr := b.banner.getD [], comp := b.compressions.getD [], key := b.hostKeys.getD [], kex := b.kex.getD [],
    enc := b.ciphers.getD [], mac := b.macs.getD [],
    hostKeys := (b.hostkeySizes.getD []).map (fun h => (h.keyType, { size := h.hostkeySize, caType := h.caKeyType, caSize := h.caKeySize })),
    dhSizes := b.dhModulusSizes.getD [] }

theorem builtin_self_pass : ∀ b ∈ SshAudit.Gen.builtinPolicies,
    (evaluate (ofBuiltin b) (peerOfBuiltin b) []).1 = true ∧ (evaluate (ofBuiltin b) (peerOfBuiltin b) []).2 = [] := by
  decide +kernel

theorem splitEq1_append (k v : Str) (hk : '=' ∉ k) : splitEq1 (k ++ '=' :: v) = some (k, v) := Pol.splitEq1_append k v hk

/-- only the first `=` splits (D11), so `=` inside the value (gss names) is harmless -/
theorem splitEq1_value_may_contain_eq (k v : Str) (hk : '=' ∉ k) : (splitEq1 (k ++ '=' :: v)).map (·.2) = some v := by
  rw [splitEq1_append k v hk]
  rfl

def peerEx : Peer := { bannerStr := s "SSH-2.0-x", kex := [s "gss-gex-sha1-toWM5Slw5Ew8Mqkay+al2g==", s "a"], enc := [s "c"],
                       key := [s "ssh-rsa"], mac := [s "m"], hostKeys := [(s "ssh-rsa", { size := 3072, caType := [], caSize := 0 })],
                       dhSizes := [(s "dh", 2048)] }
example : (evaluate (policyOf peerEx) peerEx []).1 = true := (made_policy_verdict peerEx).1
example : ((evaluate (policyOf peerEx) { peerEx with kex := [s "a"] } []).2.map (·.field)) = [s "Key exchanges"] := by
  simp only [peerEx, s]
  decode_literals
  decide +kernel
example : (parseListLine (renderList (s "key exchanges") peerEx.kex)) = some (s "key exchanges", peerEx.kex) := by
  simp only [peerEx, s]
  decode_literals
  decide +kernel

end SshAudit.C05
