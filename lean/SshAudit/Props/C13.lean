/-
  C13 — Recommendations are consistent with the ratings shown.

  `Report.recommendations db sw peer suppress` is `Algorithms.get_recommendations` followed by
  `get_algorithm_recommendations`, run on the *same* database state `db` the report is rendered
  from (all theorems are for an arbitrary `db`, so they hold for every reachable per-scan state
  and survive table edits).  `recOf` is the loop body for one database entry.
-/
import SshAudit.Lemmas.Report
namespace SshAudit.C13
open SshAudit SshAudit.Report

/-- the (category, advertised list) pairs `get_recommendations` walks for an SSH-2 peer -/
def catLists (peer : Peer) : List (Str × List Str) := [(kexC, peer.kex), (keyC, peer.key), (encC, peer.encS), (macC, peer.macS)]

/-- every recommendation comes from the loop body applied to one database entry of one category, and is not suppressed -/
theorem mem_recommendations (db : DB) (sw : Version.Software) (peer : Peer) (suppress : List Str) (r : Rec) :
    r ∈ recommendations db (some sw) peer suppress ↔
      ∃ ca ∈ catLists peer, ∃ e ∈ DBm.cat db ca.1,
        recOf sw (!vproducts.contains sw.product) ca.1 ca.2 e = some r ∧ r.name ∉ suppress := by
  rw [recs_shared]
  exact mem_recsFor

/-- **removal / change ⇒ advertised in that category and rated with a failure or warning** (`faults > 0`
    counts failure and warning entries of the very database state the report shows) -/
theorem recOf_del_chg (sw : Version.Software) (unk : Bool) (cat : Str) (adv : List Str) (e : Entry) (r : Rec)
    (h : recOf sw unk cat adv e = some r) (ha : r.action = .del ∨ r.action = .chg) :
    r.name = e.name ∧ r.cat = cat ∧ e.name ∈ adv ∧ faults e > 0 ∧ r.points = faults e ∧ (r.action = .chg ↔ chgList.contains e.name = true) :=
  Report.recOf_del_chg sw unk cat adv e r h ha

/-- **addition ⇒ not advertised, no failure or warning, not a certificate / security-key / pseudo
    algorithm, a non-empty version list admitting the identified software, and recognised software** -/
theorem recOf_add (sw : Version.Software) (unk : Bool) (cat : Str) (adv : List Str) (e : Entry) (r : Rec)
    (h : recOf sw unk cat adv e = some r) (ha : r.action = .add) :
    r.name = e.name ∧ r.cat = cat ∧ e.name ∉ adv ∧ faults e = 0 ∧ addExcluded cat e.name = false ∧ unk = false ∧ r.points = 0 ∧
      ∃ v0 rest, DBm.versions e = some v0 :: rest ∧ Version.versionFilter (some sw) unk true v0 = true :=
  Report.recOf_add sw unk cat adv e r h ha

/-- an advertised entry with a failure or warning that the version filter admits is always reported (removal or change) -/
theorem recOf_complete (sw : Version.Software) (unk : Bool) (cat : Str) (adv : List Str) (e : Entry)
    (hadv : e.name ∈ adv) (hf : faults e > 0) (hv : versionOk sw unk e = true) :
    ∃ r, recOf sw unk cat adv e = some r ∧ r.name = e.name ∧ (r.action = .del ∨ r.action = .chg) ∧ r.points = faults e :=
  Report.recOf_complete sw unk cat adv e hadv hf hv

/-- **Everything recommended for removal or change is advertised (in that category) and carries a failure or warning.** -/
theorem del_chg_sound (db : DB) (sw : Version.Software) (peer : Peer) (suppress : List Str) (r : Rec)
    (h : r ∈ recommendations db (some sw) peer suppress) (ha : r.action = .del ∨ r.action = .chg) :
    ∃ ca ∈ catLists peer, r.cat = ca.1 ∧ r.name ∈ ca.2 ∧ ∃ e ∈ DBm.cat db ca.1, e.name = r.name ∧ faults e > 0 ∧ r.points = faults e := by
  obtain ⟨ca, hca, e, he, hre, _⟩ := (mem_recommendations db sw peer suppress r).mp h
  obtain ⟨h1, h2, h3, h4, h5, _⟩ := recOf_del_chg sw _ ca.1 ca.2 e r hre ha
  exact ⟨ca, hca, h2, h1 ▸ h3, e, he, h1.symm, h4, h5⟩

/-- **Everything recommended for addition is not advertised, has no failure or warning, is not excluded, is available in the identified version, and is not suppressed.** -/
theorem add_sound (db : DB) (sw : Version.Software) (peer : Peer) (suppress : List Str) (r : Rec)
    (h : r ∈ recommendations db (some sw) peer suppress) (ha : r.action = .add) :
    r.name ∉ suppress ∧ vproducts.contains sw.product = true ∧
    ∃ ca ∈ catLists peer, r.cat = ca.1 ∧ r.name ∉ ca.2 ∧ addExcluded ca.1 r.name = false ∧
      ∃ e ∈ DBm.cat db ca.1, e.name = r.name ∧ faults e = 0 ∧
        ∃ v0 rest, DBm.versions e = some v0 :: rest ∧ Version.versionFilter (some sw) false true v0 = true := by
  obtain ⟨ca, hca, e, he, hre, hs⟩ := (mem_recommendations db sw peer suppress r).mp h
  obtain ⟨h1, h2, h3, h4, h5, h6, _, v0, rest, hv, hvf⟩ := recOf_add sw _ ca.1 ca.2 e r hre ha
  have hk : vproducts.contains sw.product = true := by simpa using h6
  refine ⟨hs, hk, ca, hca, h2, h1 ▸ h3, h1 ▸ h5, e, he, h1.symm, h4, v0, rest, hv, ?_⟩
  rw [h6] at hvf; exact hvf

/-- **Unrecognised software gets no additions.** -/
theorem unknown_software_no_add (db : DB) (sw : Version.Software) (peer : Peer) (suppress : List Str)
    (hu : vproducts.contains sw.product = false) : ∀ r ∈ recommendations db (some sw) peer suppress, r.action ≠ .add := by
  intro r h ha
  have := (add_sound db sw peer suppress r h ha).2.1
  rw [hu] at this; cases this

/-- no software identified: no recommendations at all -/
theorem no_software_no_recs (db : DB) (peer : Peer) (suppress : List Str) : recommendations db none peer suppress = [] := rfl

theorem categories_distinct (peer : Peer) : ((catLists peer).map (·.1)).Nodup := by
  unfold catLists; simp only [List.map_cons, List.map_nil]; decide

theorem not_both_ways (db : DB) (sw : Version.Software) (peer : Peer) (suppress : List Str) (r1 r2 : Rec)
    (h1 : r1 ∈ recommendations db (some sw) peer suppress) (h2 : r2 ∈ recommendations db (some sw) peer suppress)
    (ha1 : r1.action = .add) (ha2 : r2.action = .del ∨ r2.action = .chg) (hc : r1.cat = r2.cat) : r1.name ≠ r2.name := by
  obtain ⟨_, _, ca1, hca1, hcat1, hn1, _⟩ := add_sound db sw peer suppress r1 h1 ha1
  obtain ⟨ca2, hca2, hcat2, hn2, _⟩ := del_chg_sound db sw peer suppress r2 h2 ha2
  intro hne
  -- the category name determines the advertised list the two were checked against
  rw [Text.inj_of_nodup_map (categories_distinct peer) hca1 hca2 (by rw [← hcat1, ← hcat2, hc]), hne] at hn1
  exact hn1 hn2

/-- **Nothing is recommended both ways** (an addition and a removal/change of the same name in the same category) -/
theorem no_both_ways (db : DB) (sw : Version.Software) (peer : Peer) (suppress : List Str) (r1 r2 : Rec)
    (h1 : r1 ∈ recommendations db (some sw) peer suppress) (h2 : r2 ∈ recommendations db (some sw) peer suppress)
    (ha1 : r1.action = .add) (ha2 : r2.action = .del ∨ r2.action = .chg) (hc : r1.cat = r2.cat) (hcat : (catLists peer).map (·.1) |>.Nodup) :
    r1.name ≠ r2.name :=
  not_both_ways db sw peer suppress r1 r2 h1 h2 ha1 ha2 hc

theorem critical_iff (db : DB) (sw : Version.Software) (peer : Peer) (suppress : List Str) (r : Rec)
    (h : r ∈ recommendations db (some sw) peer suppress) (ha : r.action = .del ∨ r.action = .chg) :
    ∃ e ∈ DBm.cat db r.cat, e.name = r.name ∧ ((DBm.slot e 2).length < 10 → (recLevel r = 2 ↔ (DBm.slot e 1).length > 0)) := by
  obtain ⟨ca, _, hc, _, e, he, hn, _, hp⟩ := del_chg_sound db sw peer suppress r h ha
  refine ⟨e, hc ▸ he, hn, fun hw => ?_⟩
  -- `critical` is ten points or more; a failure counts ten, a warning one
  rw [recLevel_eq_two, hp, faults]
  omega

/-- **critical ⇔ the algorithm has a failure**, whenever it carries fewer than ten warnings (true of every
    duplicate-free list: at most two table warnings plus two added notes; ≥ 10 duplicate ChaCha entries are observation D27) -/
theorem critical_iff_failure (db : DB) (sw : Version.Software) (peer : Peer) (suppress : List Str) (r : Rec)
    (h : r ∈ recommendations db (some sw) peer suppress) (ha : r.action = .del ∨ r.action = .chg) :
    ∃ e, (∃ c, e ∈ DBm.cat db c) ∧ e.name = r.name ∧ ((DBm.slot e 2).length < 10 → (recLevel r = 2 ↔ (DBm.slot e 1).length > 0)) := by
  obtain ⟨e, he, hn, hcrit⟩ := critical_iff db sw peer suppress r h ha
  exact ⟨e, ⟨r.cat, he⟩, hn, hcrit⟩

/-- **completeness (partial: names that are database keys themselves — gss names are known finding D12)**: an advertised entry
    rated with a failure or warning, known in the identified version (or with an empty version list) and not suppressed, is
    recommended for removal or change -/
theorem del_chg_complete_partial (db : DB) (sw : Version.Software) (peer : Peer) (suppress : List Str)
    (ca : Str × List Str) (hca : ca ∈ catLists peer) (e : Entry) (he : e ∈ DBm.cat db ca.1) (hadv : e.name ∈ ca.2) (hf : faults e > 0)
    (hv : versionOk sw (!vproducts.contains sw.product) e = true)
    (hs : e.name ∉ suppress) :
    ∃ r ∈ recommendations db (some sw) peer suppress, r.name = e.name ∧ (r.action = .del ∨ r.action = .chg) := by
  obtain ⟨r, hr, hn, ha, _⟩ := recOf_complete sw (!vproducts.contains sw.product) ca.1 ca.2 e hadv hf hv
  exact ⟨r, (mem_recommendations db sw peer suppress r).mpr ⟨ca, hca, e, he, hr, hn ▸ hs⟩, hn, ha⟩

end SshAudit.C13
