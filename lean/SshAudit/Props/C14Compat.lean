/-
  The `(gen) compatibility:` and `(gen) software:` lines of the standard report (`Model/Compat.lean`), for every rating database,
  all advertised lists and both roles: the line is `form p lower upper` for OpenSSH then Dropbear SSH.  The bounds are the extremes
  in Python's `str` order of the versions the advertised names contribute; they are the numeric extremes on the regenerated
  databases only (`lower_bound_not_numeric_in_general`).
-/
import SshAudit.Lemmas.Compat
import SshAudit.Lemmas.DB
import SshAudit.Props.C14
import SshAudit.Gen.KexDB
namespace SshAudit.C14Compat
open Version Text Compat
open SshAudit.Report (s kexC keyC encC macC autC)

/-- the slot `get_from(product, for_server)` / `get_till(product, for_server)` read -/
def fromPos (forServer : Bool) : Nat := if forServer then 0 else 2
def tillPos (forServer : Bool) : Nat := if forServer then 1 else 3

/-- the "appeared in" versions the advertised names contribute for product `p` (in the order of the audit) -/
def sinces (db : DB) (items : List (Str × List Str)) (forServer : Bool) (p : Str) : List Str :=
  picks (allUpdates db items forServer) p (fromPos forServer)

/-- the "removed in" versions the advertised names contribute for product `p` -/
def tills (db : DB) (items : List (Str × List Str)) (forServer : Bool) (p : Str) : List Str :=
  picks (allUpdates db items forServer) p (tillPos forServer)

def lower (db : DB) (items : List (Str × List Str)) (forServer : Bool) (p : Str) : Option Str :=
  slotFold (fromPos forServer) (sinces db items forServer p)

def upper (db : DB) (items : List (Str × List Str)) (forServer : Bool) (p : Str) : Option Str :=
  slotFold (tillPos forServer) (tills db items forServer p)

/-- the text for one product, given its two bounds -/
def form (p : Str) (lo hi : Option Str) : Option Str :=
  match lo, hi with
  | none, _ => none
  | some a, none => some (p ++ s " " ++ a ++ s "+")
  | some a, some t =>
    if a = t then some (p ++ s " " ++ a)
    else if compareVersion ⟨none, p, a, none, none⟩ t > 0 then some (p ++ s " " ++ a ++ s "+ (some functionality from " ++ t ++ s ")")
    else some (p ++ s " " ++ a ++ s "-" ++ t)

/-- the version entries (`alg_desc[0]`) of the advertised names the database knows -/
def advertised (db : DB) (items : List (Str × List Str)) : List (List (Option Str)) :=
  items.flatMap (fun it => it.2.filterMap (fun n => (DBm.lookup db it.1 n).map DBm.versions))

theorem fromPos_lt (fs : Bool) : fromPos fs < 4 := by cases fs <;> decide
theorem tillPos_lt (fs : Bool) : tillPos fs < 4 := by cases fs <;> decide

theorem timeframe_slot (db : DB) (items : List (Str × List Str)) (fs : Bool) (p : Str) (pos : Nat) :
    slotAt (timeframe db items fs) p pos = slotFold pos (picks (allUpdates db items fs) p pos) := by
  unfold timeframe
  rw [sshTimeframe_eq, slotAt_applyAll [] wf_nil _ (allUpdates_pos db items fs), slotAt_nil]
  rfl

theorem tfGetFrom_eq_slotAt (tf : Timeframe) (p : Str) (fs : Bool) : tfGetFrom tf p fs = slotAt tf p (fromPos fs) := by
  cases fs <;> rfl
theorem tfGetTill_eq_slotAt (tf : Timeframe) (p : Str) (fs : Bool) : tfGetTill tf p fs = slotAt tf p (tillPos fs) := by
  cases fs <;> rfl

/-- `get_from(product, for_server)` of the audit's time frame -/
theorem timeframe_from (db : DB) (items : List (Str × List Str)) (fs : Bool) (p : Str) :
    tfGetFrom (timeframe db items fs) p fs = lower db items fs p :=
  (tfGetFrom_eq_slotAt _ p fs).trans (timeframe_slot db items fs p (fromPos fs))

theorem timeframe_till (db : DB) (items : List (Str × List Str)) (fs : Bool) (p : Str) :
    tfGetTill (timeframe db items fs) p fs = upper db items fs p :=
  (tfGetTill_eq_slotAt _ p fs).trans (timeframe_slot db items fs p (tillPos fs))

/-- `product in timeframe`: some advertised name has some version entry of that product (in any slot of the role) -/
theorem timeframe_contains (db : DB) (items : List (Str × List Str)) (fs : Bool) (p : Str) :
    tfContains (timeframe db items fs) p = (allUpdates db items fs).any (fun u => decide (u.1 = p)) := by
  unfold timeframe
  rw [sshTimeframe_eq, contains_applyAll]
  rfl

/-- the membership test of the loop is redundant: a product outside the time frame has no lower bound -/
theorem partOf_eq_form (tf : Timeframe) (fs : Bool) (p : Str) :
    partOf tf fs p = form p (tfGetFrom tf p fs) (tfGetTill tf p fs) := by
  unfold partOf form
  by_cases hc : tfContains tf p = false
  · simp [hc, tfGetFrom_eq_slotAt, slotAt_not_contained tf p _ hc]
  · simp only [hc]
    cases tfGetFrom tf p fs <;> cases tfGetTill tf p fs <;> rfl

/-- the closed form of the line -/
theorem compat_closed_form (db : DB) (items : List (Str × List Str)) (client fs : Bool) :
    compatText db items client fs =
      if client then none
      else
        let parts := shownProducts.filterMap (fun p => form p (lower db items fs p) (upper db items fs p))
        if parts.length > 0 then some (Text.join (s ", ") parts) else none := by
  unfold compatText partsFor
  have : (fun p => partOf (timeframe db items fs) fs p) = (fun p => form p (lower db items fs p) (upper db items fs p)) := by
    funext p
    rw [partOf_eq_form, timeframe_from, timeframe_till]
  simp only [this]

theorem compat_products (db : DB) (items : List (Str × List Str)) (fs : Bool) :
    partsFor (timeframe db items fs) fs =
      (form pOpenSSH (lower db items fs pOpenSSH) (upper db items fs pOpenSSH)).toList ++
      (form pDropbear (lower db items fs pDropbear) (upper db items fs pDropbear)).toList := by
  unfold partsFor shownProducts
  simp only [List.filterMap_cons, List.filterMap_nil, partOf_eq_form, timeframe_from, timeframe_till]
  cases form pOpenSSH (lower db items fs pOpenSSH) (upper db items fs pOpenSSH) <;>
    cases form pDropbear (lower db items fs pDropbear) (upper db items fs pDropbear) <;> rfl

theorem form_omitted (p : Str) (hi : Option Str) : form p none hi = none := by
  cases hi <;> rfl

theorem form_open (p a : Str) : form p (some a) none = some (p ++ s " " ++ a ++ s "+") := rfl

theorem form_single (p a : Str) : form p (some a) (some a) = some (p ++ s " " ++ a) := by simp [form]

theorem form_range (p a t : Str) (hne : a ≠ t) (h : compareVersion ⟨none, p, a, none, none⟩ t ≤ 0) :
    form p (some a) (some t) = some (p ++ s " " ++ a ++ s "-" ++ t) := by
  have : ¬ compareVersion ⟨none, p, a, none, none⟩ t > 0 := by omega
  simp [form, hne, this]

theorem form_inverted (p a t : Str) (hne : a ≠ t) (h : compareVersion ⟨none, p, a, none, none⟩ t > 0) :
    form p (some a) (some t) = some (p ++ s " " ++ a ++ s "+ (some functionality from " ++ t ++ s ")") := by
  simp [form, hne, h]

/-- a product is shown exactly when it has a lower bound -/
theorem form_shown_iff (p : Str) (lo hi : Option Str) : (form p lo hi).isSome = lo.isSome := by
  fun_cases form p lo hi <;> rfl

/-- every shown part starts with the product and its lower bound -/
theorem form_prefix (p : Str) (a : Str) (hi : Option Str) : ∃ rest, form p (some a) hi = some (p ++ s " " ++ a ++ rest) := by
  cases hi with
  | none => exact ⟨s "+", rfl⟩
  | some t =>
    simp only [form]
    split
    · exact ⟨[], by simp⟩
    · split
      · exact ⟨s "+ (some functionality from " ++ t ++ s ")", by simp [List.append_assoc]⟩
      · exact ⟨s "-" ++ t, by simp [List.append_assoc]⟩

theorem allUpdates_eq (db : DB) (items : List (Str × List Str)) (fs : Bool) :
    allUpdates db items fs = (advertised db items).flatMap (updatesOf · fs) := by
  unfold allUpdates advertised
  rw [List.flatMap_assoc]
  congr 1
  funext it
  induction it.2 with
  | nil => rfl
  | cons n ns ih =>
    rw [List.flatMap_cons, List.filterMap_cons, ih, nameUpdates]
    cases DBm.lookup db it.1 n <;> rfl

theorem mem_allUpdates (db : DB) (items : List (Str × List Str)) (fs : Bool) (u : Upd) :
    u ∈ allUpdates db items fs ↔ ∃ vs ∈ advertised db items, u ∈ updatesOf vs fs := by
  rw [allUpdates_eq, List.mem_flatMap]

theorem mem_offered (db : DB) (items : List (Str × List Str)) (fs : Bool) (p : Str) (pos : Nat) (v : Str) :
    v ∈ picks (allUpdates db items fs) p pos ↔ ∃ vs ∈ advertised db items, (p, pos, v) ∈ updatesOf vs fs := by
  rw [mem_picks, mem_allUpdates]

/-- an "appeared in" version of product `p` is contributed exactly by an advertised, known name whose version entry makes
    `update()` assign it to the role's "from" slot -/
theorem mem_sinces (db : DB) (items : List (Str × List Str)) (fs : Bool) (p v : Str) :
    v ∈ sinces db items fs p ↔ ∃ vs ∈ advertised db items, (p, fromPos fs, v) ∈ updatesOf vs fs :=
  mem_offered db items fs p _ v

theorem mem_tills (db : DB) (items : List (Str × List Str)) (fs : Bool) (p v : Str) :
    v ∈ tills db items fs p ↔ ∃ vs ∈ advertised db items, (p, tillPos fs, v) ∈ updatesOf vs fs :=
  mem_offered db items fs p _ v

theorem offered_mono {db db' : DB} {items items' : List (Str × List Str)} (h : ∀ vs ∈ advertised db items, vs ∈ advertised db' items')
    (fs : Bool) (p : Str) (pos : Nat) :
    ∀ v ∈ picks (allUpdates db items fs) p pos, v ∈ picks (allUpdates db' items' fs) p pos := by
  intro v hv
  rw [mem_offered] at hv ⊢
  obtain ⟨vs, hvs, hu⟩ := hv
  exact ⟨vs, h vs hvs, hu⟩

theorem beats_fromPos (fs : Bool) (v r : Str) : beats (fromPos fs) v r = strLt r v := by cases fs <;> rfl
theorem beats_tillPos (fs : Bool) (v r : Str) : beats (tillPos fs) v r = strLt v r := by cases fs <;> rfl

/-- the lower bound is the greatest "appeared in" version, in Python's `str` order, as `timeframe.py` compares -/
theorem lower_is_greatest (db : DB) (items : List (Str × List Str)) (fs : Bool) (p : Str) :
    (lower db items fs p = none ↔ sinces db items fs p = []) ∧
    (∀ r, lower db items fs p = some r → r ∈ sinces db items fs p ∧ ∀ v ∈ sinces db items fs p, strLt r v = false) := by
  have h := fun r => @slotFold_some (fromPos fs) (sinces db items fs p) r
  simp only [beats_fromPos] at h
  exact ⟨slotFold_eq_none _ _, h⟩

/-- the upper bound is the smallest "removed in" version -/
theorem upper_is_smallest (db : DB) (items : List (Str × List Str)) (fs : Bool) (p : Str) :
    (upper db items fs p = none ↔ tills db items fs p = []) ∧
    (∀ r, upper db items fs p = some r → r ∈ tills db items fs p ∧ ∀ v ∈ tills db items fs p, strLt v r = false) := by
  have h := fun r => @slotFold_some (tillPos fs) (tills db items fs p) r
  simp only [beats_tillPos] at h
  exact ⟨slotFold_eq_none _ _, h⟩

/-- the bounds are determined by these two conditions (the extreme element of a strict total order is unique) -/
theorem lower_unique (db : DB) (items : List (Str × List Str)) (fs : Bool) (p r : Str)
    (hm : r ∈ sinces db items fs p) (ha : ∀ v ∈ sinces db items fs p, strLt r v = false) : lower db items fs p = some r :=
  slotFold_unique _ _ r hm (by simpa only [beats_fromPos] using ha)

theorem upper_unique (db : DB) (items : List (Str × List Str)) (fs : Bool) (p r : Str)
    (hm : r ∈ tills db items fs p) (ha : ∀ v ∈ tills db items fs p, strLt v r = false) : upper db items fs p = some r :=
  slotFold_unique _ _ r hm (by simpa only [beats_tillPos] using ha)

/-- Two audits — even against two different databases — whose advertised names have the same SET of version
    entries print the same compatibility line: the order of the lists, repetitions, which category a name stands in, the
    names themselves and every other field of the database do not enter. -/
theorem compat_set_function (db db' : DB) (items items' : List (Str × List Str)) (client fs : Bool)
    (h : ∀ vs, vs ∈ advertised db items ↔ vs ∈ advertised db' items') :
    compatText db items client fs = compatText db' items' client fs := by
  have hs : ∀ p pos, slotFold pos (picks (allUpdates db items fs) p pos) = slotFold pos (picks (allUpdates db' items' fs) p pos) :=
    fun p pos => slotFold_congr pos _ _ fun v =>
      ⟨offered_mono (fun vs => (h vs).mp) fs p pos v, offered_mono (fun vs => (h vs).mpr) fs p pos v⟩
  have hl : ∀ p, lower db items fs p = lower db' items' fs p := fun p => hs p _
  have hu : ∀ p, upper db items fs p = upper db' items' fs p := fun p => hs p _
  rw [compat_closed_form, compat_closed_form]
  simp only [hl, hu]

theorem mem_advertised (db : DB) (items : List (Str × List Str)) (vs : List (Option Str)) :
    vs ∈ advertised db items ↔ ∃ it ∈ items, ∃ n ∈ it.2, ∃ e, DBm.lookup db it.1 n = some e ∧ DBm.versions e = vs := by
  simp only [advertised, List.mem_flatMap, List.mem_filterMap, Option.map_eq_some_iff]

theorem advertised_sub_of_names (db : DB) {items items' : List (Str × List Str)}
    (h : ∀ it ∈ items, ∀ n ∈ it.2, ∃ it' ∈ items', it'.1 = it.1 ∧ n ∈ it'.2) :
    ∀ vs ∈ advertised db items, vs ∈ advertised db items' := by
  intro vs hv
  rw [mem_advertised] at hv ⊢
  obtain ⟨it, hit, n, hn, e, hl, hv⟩ := hv
  obtain ⟨it', hit', e1, hn'⟩ := h it hit n hn
  exact ⟨it', hit', n, hn', e, e1 ▸ hl, hv⟩

/-- repeating advertised names (anywhere, any number of times) does not change the line -/
theorem compat_repeat (db : DB) (items items' : List (Str × List Str)) (client fs : Bool)
    (h : ∀ c n, (∃ it ∈ items, it.1 = c ∧ n ∈ it.2) ↔ (∃ it ∈ items', it.1 = c ∧ n ∈ it.2)) :
    compatText db items client fs = compatText db items' client fs :=
  compat_set_function db db items items' client fs fun vs =>
    ⟨advertised_sub_of_names db (fun it hit n hn => (h it.1 n).mp ⟨it, hit, rfl, hn⟩) vs,
     advertised_sub_of_names db (fun it hit n hn => (h it.1 n).mpr ⟨it, hit, rfl, hn⟩) vs⟩

theorem compat_dedup (db : DB) (c : Str) (l : List Str) (rest : List (Str × List Str)) (client fs : Bool) :
    compatText db ((c, l) :: rest) client fs = compatText db ((c, l.eraseDups) :: rest) client fs := by
  apply compat_repeat
  intro c' n
  simp only [List.mem_cons, exists_eq_or_imp, List.mem_eraseDups]

/-- permuting each of the advertised lists does not change the line -/
theorem compat_perm (db : DB) (cats : List Str) (ls ls' : List (List Str)) (client fs : Bool)
    (hlen : ls.length = ls'.length) (hp : ∀ i (h : i < ls.length), (ls[i]).Perm (ls'[i]'(hlen ▸ h))) :
    compatText db (cats.zip ls) client fs = compatText db (cats.zip ls') client fs := by
  have key : ∀ (a b : List (List Str)) (hl : a.length = b.length),
      (∀ i (h : i < a.length), (a[i]).Perm (b[i]'(hl ▸ h))) →
      ∀ it ∈ cats.zip a, ∀ n ∈ it.2, ∃ it' ∈ cats.zip b, it'.1 = it.1 ∧ n ∈ it'.2 := by
    intro a b hl hperm it hit n hn
    obtain ⟨i, hi, rfl⟩ := List.getElem_of_mem hit
    rw [List.length_zip] at hi
    rw [List.getElem_zip] at hn ⊢
    have hib : i < (cats.zip b).length := by rw [List.length_zip, ← hl]; exact hi
    refine ⟨(cats.zip b)[i], List.getElem_mem hib, ?_⟩
    rw [List.getElem_zip]
    exact ⟨rfl, (hperm i (Nat.lt_min.mp hi).2).mem_iff.mp hn⟩
  exact compat_set_function db db _ _ client fs fun vs =>
    ⟨advertised_sub_of_names db (key ls ls' hlen hp) vs,
     advertised_sub_of_names db (key ls' ls hlen.symm fun i h => (hp i (hlen ▸ h)).symm) vs⟩

theorem compat_perm_peer (db : DB) (peer peer' : Report.Peer) (client fs : Bool)
    (h1 : peer.kex.Perm peer'.kex) (h2 : peer.key.Perm peer'.key) (h3 : peer.encS.Perm peer'.encS) (h4 : peer.macS.Perm peer'.macS) :
    compatText db (items2 peer) client fs = compatText db (items2 peer') client fs :=
  compat_perm db [kexC, keyC, encC, macC] [peer.kex, peer.key, peer.encS, peer.macS]
    [peer'.kex, peer'.key, peer'.encS, peer'.macS] client fs rfl fun i h =>
      match i, h with
      | 0, _ => h1
      | 1, _ => h2
      | 2, _ => h3
      | 3, _ => h4

/-- two databases that agree on the version entry of every name print the same line for the same lists: no note, no rating
    enters -/
theorem compat_ignores_notes (db db' : DB) (items : List (Str × List Str)) (client fs : Bool)
    (h : ∀ c n, (DBm.lookup db c n).map DBm.versions = (DBm.lookup db' c n).map DBm.versions) :
    compatText db items client fs = compatText db' items client fs := by
  apply compat_set_function
  intro vs
  simp only [advertised, h]

/-- When every version entry advertised in one audit is also advertised in another (more names, another order, even
    another database), then for every product: a lower bound stays and can only rise, an upper bound present afterwards is not
    above the one before, and an upper bound never disappears. -/
theorem bounds_monotone (db db' : DB) (items items' : List (Str × List Str)) (fs : Bool) (p : Str)
    (h : ∀ vs ∈ advertised db items, vs ∈ advertised db' items') :
    (∀ a, lower db items fs p = some a → ∃ a', lower db' items' fs p = some a' ∧ strLt a' a = false) ∧
    (∀ t, upper db items fs p = some t → ∃ t', upper db' items' fs p = some t' ∧ strLt t t' = false) := by
  have hl := slotFold_mono (fromPos fs) _ _ (offered_mono h fs p (fromPos fs))
  have hu := slotFold_mono (tillPos fs) _ _ (offered_mono h fs p (tillPos fs))
  simp only [beats_fromPos] at hl
  simp only [beats_tillPos] at hu
  exact ⟨hl, hu⟩

theorem advertised_sub_append (db : DB) (items more : List (Str × List Str)) :
    ∀ vs ∈ advertised db items, vs ∈ advertised db (items ++ more) := fun vs hv => by
  rw [advertised, List.flatMap_append]
  exact List.mem_append_left _ hv

/-- adding an algorithm (here: as a further list entry; by `compat_perm` its position does not matter) can only shrink a
    product's range, and a product that was shown stays shown -/
theorem add_name_monotone (db : DB) (items : List (Str × List Str)) (c n : Str) (fs : Bool) (p : Str) :
    (∀ a, lower db items fs p = some a → ∃ a', lower db (items ++ [(c, [n])]) fs p = some a' ∧ strLt a' a = false) ∧
    (∀ t, upper db items fs p = some t → ∃ t', upper db (items ++ [(c, [n])]) fs p = some t' ∧ strLt t t' = false) ∧
    ((form p (lower db items fs p) (upper db items fs p)).isSome = true →
      (form p (lower db (items ++ [(c, [n])]) fs p) (upper db (items ++ [(c, [n])]) fs p)).isSome = true) := by
  have hsub := advertised_sub_append db items [(c, [n])]
  obtain ⟨h1, h2⟩ := bounds_monotone db db items (items ++ [(c, [n])]) fs p hsub
  refine ⟨h1, h2, ?_⟩
  rw [form_shown_iff, form_shown_iff]
  intro hs
  obtain ⟨a, hl⟩ := Option.isSome_iff_exists.mp hs
  obtain ⟨a', ha', _⟩ := h1 a hl
  rw [ha']
  rfl

/-- An advertised algorithm whose version entry assigns nothing to product `p` (no descriptor of that product in the
    entries the role reads — e.g. an OpenSSH-only algorithm and `p` = Dropbear SSH) leaves the bounds of `p`, hence its part
    of the line, exactly as they were: the product is *kept*, not removed. -/
theorem name_without_entry_keeps_product (db : DB) (items : List (Str × List Str)) (c n : Str) (fs : Bool) (p : Str)
    (h : ∀ pos v, (p, pos, v) ∉ nameUpdates db fs c n) :
    lower db (items ++ [(c, [n])]) fs p = lower db items fs p ∧ upper db (items ++ [(c, [n])]) fs p = upper db items fs p := by
  unfold lower upper sinces tills
  rw [allUpdates_append, allUpdates_single, picks_append, picks_append,
    picks_eq_nil _ p _ (h _), picks_eq_nil _ p _ (h _), List.append_nil, List.append_nil]
  exact ⟨rfl, rfl⟩

/-- names the database does not know change nothing: the line of the lists with every unknown name removed is the line -/
theorem unknown_names_ignored (db : DB) (items : List (Str × List Str)) (client fs : Bool) :
    compatText db (items.map (fun it => (it.1, it.2.filter (fun n => (DBm.lookup db it.1 n).isSome)))) client fs
      = compatText db items client fs := by
  apply compat_set_function
  intro vs
  simp only [mem_advertised, List.mem_map]
  constructor
  · rintro ⟨it, ⟨it0, h0, e0⟩, n, hn, e, hl, hv⟩
    subst e0
    simp only [List.mem_filter] at hn
    exact ⟨it0, h0, n, hn.1, e, hl, hv⟩
  · rintro ⟨it, hit, n, hn, e, hl, hv⟩
    exact ⟨(it.1, it.2.filter (fun n => (DBm.lookup db it.1 n).isSome)), ⟨it, hit, rfl⟩, n,
      by simp [List.mem_filter, hn, hl], e, hl, hv⟩

theorem silent_name_ignored (db : DB) (items : List (Str × List Str)) (c n : Str) (client fs : Bool)
    (h : nameUpdates db fs c n = []) : compatText db (items ++ [(c, [n])]) client fs = compatText db items client fs := by
  unfold compatText timeframe
  rw [sshTimeframe_eq, sshTimeframe_eq, allUpdates_append, allUpdates_single, h, List.append_nil]

theorem unknown_name_ignored (db : DB) (items : List (Str × List Str)) (c n : Str) (client fs : Bool)
    (h : DBm.lookup db c n = none) : compatText db (items ++ [(c, [n])]) client fs = compatText db items client fs :=
  silent_name_ignored db items c n client fs (by simp only [nameUpdates, h])

/-- a known name with an empty version entry (`[[]]`, most of the database) changes nothing -/
theorem empty_versions_ignored (db : DB) (items : List (Str × List Str)) (c n : Str) (e : Entry) (client fs : Bool)
    (h : DBm.lookup db c n = some e) (hv : DBm.versions e = []) :
    compatText db (items ++ [(c, [n])]) client fs = compatText db items client fs :=
  silent_name_ignored db items c n client fs (by simp only [nameUpdates, h, hv, updatesOf_nil])

/-- `Timeframe.update(versions, for_server)` for a `bool` role as the list of its assignments; anything beyond the third entry is
    never read. -/
theorem role_slots (tf : Timeframe) (a b c : Option Str) (rest : List (Option Str)) :
    tfUpdate tf [] (some true) = tf ∧
    tfUpdate tf [a] (some true) = applyAll tf (upd1 a 0) ∧
    tfUpdate tf (a :: b :: rest) (some true) = applyAll tf (upd1 a 0 ++ upd1 b 1) ∧
    tfUpdate tf [] (some false) = tf ∧
    tfUpdate tf [a] (some false) = applyAll tf (upd1 a 2) ∧
    tfUpdate tf [a, b] (some false) = applyAll tf (upd1 a 2 ++ upd1 b 3) ∧
    tfUpdate tf (a :: b :: c :: rest) (some false) = applyAll tf (upd1 a 2 ++ upd1 c 3) :=
  ⟨tfUpdate_eq tf [] true, tfUpdate_eq tf [a] true, tfUpdate_eq tf (a :: b :: rest) true,
   tfUpdate_eq tf [] false, tfUpdate_eq tf [a] false, tfUpdate_eq tf [a, b] false, tfUpdate_eq tf (a :: b :: c :: rest) false⟩

/-- the slots a role writes are the slots the same role reads back: a server frame never touches slots 2 / 3 and a client frame
    never touches slots 0 / 1 -/
theorem role_slots_disjoint (vs : List (Option Str)) (fs : Bool) (u : Upd) (h : u ∈ updatesOf vs fs) :
    u.2.1 = fromPos fs ∨ u.2.1 = tillPos fs :=
  let ⟨_, _, _, hp⟩ := mem_updatesOf h
  hp

/-- a client-only descriptor (`…C`) never contributes to a server slot, and a descriptor without a version never contributes
    at all -/
theorem server_skips_client_only (v : Option Str) (pos : Nat) (hpos : pos < 2) (p ver : Str) (h : (p, ver) ∈ collectVersions v pos) :
    ∃ d ∈ splitOn ',' (v.getD []), getSshVersion d = (p, ver, false) ∧ ver ≠ [] := by
  obtain ⟨d, hd, ha, h1, h2⟩ := collect_sound v pos p ver h
  refine ⟨d, hd, ?_, ?_⟩
  · have hc := ((eligible_iff pos d).mp ha).2
    rw [decide_eq_true hpos, Bool.and_true] at hc
    rw [← h1, ← h2, ← hc]
  · rw [← h2]; exact ((eligible_iff pos d).mp ha).1

/-- a client audit prints no compatibility line, whatever was advertised -/
theorem client_audit_prints_nothing (db : DB) (items : List (Str × List Str)) (fs : Bool) : compatText db items true fs = none := rfl

/-- `output()` asks for the server frame, for the four lists of `Algorithms.ssh2`, and passes `client_host is not None` -/
theorem output_uses_server_frame (db : DB) (peer : Report.Peer) (banner : Option Banner.Banner) (ch : Option Str) (inp : Output.Input) :
    (fill db peer banner ch inp).compat =
      compatText db [(kexC, peer.kex), (keyC, peer.key), (encC, peer.encS), (macC, peer.macS)] ch.isSome true := rfl

theorem output_client_audit_no_line (db : DB) (peer : Report.Peer) (banner : Option Banner.Banner) (ip : Str) (inp : Output.Input) :
    (fill db peer banner (some ip) inp).compat = none := rfl

/-- the line is printed exactly when the audit is not a client audit and one of the two products has a lower bound -/
theorem compat_printed_iff (db : DB) (items : List (Str × List Str)) (client fs : Bool) :
    (compatText db items client fs).isSome =
      (!client && ((lower db items fs pOpenSSH).isSome || (lower db items fs pDropbear).isSome)) := by
  cases client
  · unfold compatText
    simp only [Bool.false_eq_true, if_false, compat_products, Bool.not_false, Bool.true_and]
    rw [← form_shown_iff pOpenSSH (lower db items fs pOpenSSH) (upper db items fs pOpenSSH),
      ← form_shown_iff pDropbear (lower db items fs pDropbear) (upper db items fs pDropbear)]
    generalize form pOpenSSH (lower db items fs pOpenSSH) (upper db items fs pOpenSSH) = x
    generalize form pDropbear (lower db items fs pDropbear) (upper db items fs pDropbear) = y
    cases x <;> cases y <;> simp
  · rfl

/-- the compatibility line `output()` prints is the one of the unedited database: the Terrapin warnings and the 2048-bit
    fallback note that `post_process_findings` writes into the per-thread database before the line is computed touch no
    version entry -/
theorem compat_after_postprocess (db : DB) (peer : Report.Peer) (clientAudit : Bool) (sw : Option Str) (rate : Str)
    (items : List (Str × List Str)) (client fs : Bool) :
    compatText (Report.postProcess db peer clientAudit sw rate).db items client fs = compatText db items client fs :=
  compat_ignores_notes _ _ items client fs (postProcess_versions db peer clientAudit sw rate)

/-- a dot-separated decimal version: non-empty digit groups separated by single dots -/
def isVer (v : Str) : Bool := (splitOn '.' v).all (fun d => !d.isEmpty && d.all isDigit)

theorem render_of_isVer (v : Str) (h : isVer v = true) : ∃ ds, WfDs ds ∧ v = render ds := by
  refine ⟨splitOn '.' v, ⟨splitOn_ne_nil _ _, ?_⟩, (join_splitOn '.' v).symm⟩
  intro d hd
  simp only [isVer, List.all_eq_true, Bool.and_eq_true, Bool.not_eq_true'] at h
  have := h d hd
  exact ⟨by simpa [List.isEmpty_iff] using this.1, List.all_eq_true.mpr this.2⟩

/-- on two versions `compare_version` is the component-wise numeric comparison -/
theorem compareVersion_versions (p : Str) (ds₁ ds₂ : List Str) (h₁ : WfDs ds₁) (h₂ : WfDs ds₂) :
    compareVersion ⟨none, p, render ds₁, none, none⟩ (render ds₂) = C14.numCmp (vals ds₁) (vals ds₂) :=
  C14.compare_plain h₁ h₂

theorem verLt_versions (ds₁ ds₂ : List Str) (h₁ : WfDs ds₁) (h₂ : WfDs ds₂) :
    C14.verLt (render ds₁) (render ds₂) = decide (C14.numCmp (vals ds₁) (vals ds₂) < 0) := by
  simp [C14.verLt, dotNum?_render _ h₁, dotNum?_render _ h₂]

/-- the members are versions, and Python's `str <` orders any two of them as their numbers are ordered -/
def NumSafe (vs : List Str) : Prop := ∀ a ∈ vs, ∀ b ∈ vs, C14.orderSafe a b = true ∧ isVer a = true

theorem strLt_of_safe (p a b : Str) (h : C14.orderSafe a b = true) (ha : isVer a = true) (hb : isVer b = true) :
    (strLt a b = false ↔ compareVersion ⟨none, p, a, none, none⟩ b ≥ 0) ∧
    (strLt b a = false ↔ compareVersion ⟨none, p, a, none, none⟩ b ≤ 0) := by
  obtain ⟨ds₁, w₁, rfl⟩ := render_of_isVer a ha
  obtain ⟨ds₂, w₂, rfl⟩ := render_of_isVer b hb
  simp only [C14.orderSafe, Bool.and_eq_true, beq_iff_eq] at h
  have := C14.numCmp_antisymm (vals ds₁) (vals ds₂)
  rw [h.1.2, h.2, verLt_versions _ _ w₁ w₂, verLt_versions _ _ w₂ w₁, C14.compare_plain w₁ w₂]
  simp only [decide_eq_false_iff_not]
  omega

/-- Whenever the string order of the contributed "appeared in" versions is their
    numeric order, the printed lower bound is numerically the greatest of them by the model's `compareVersion`
    (component-wise numeric, any digit count). -/
theorem lower_numeric (db : DB) (items : List (Str × List Str)) (fs : Bool) (p : Str)
    (hs : NumSafe (sinces db items fs p)) (r : Str) (hr : lower db items fs p = some r) :
    ∀ v ∈ sinces db items fs p, compareVersion ⟨none, p, r, none, none⟩ v ≥ 0 := by
  obtain ⟨hm, ha⟩ := (lower_is_greatest db items fs p).2 r hr
  intro v hv
  obtain ⟨ho, hvr⟩ := hs r hm v hv
  exact (strLt_of_safe p r v ho hvr (hs v hv r hm).2).1.mp (ha v hv)

theorem upper_numeric (db : DB) (items : List (Str × List Str)) (fs : Bool) (p : Str)
    (hs : NumSafe (tills db items fs p)) (r : Str) (hr : upper db items fs p = some r) :
    ∀ v ∈ tills db items fs p, compareVersion ⟨none, p, r, none, none⟩ v ≤ 0 := by
  obtain ⟨hm, ha⟩ := (upper_is_smallest db items fs p).2 r hr
  intro v hv
  obtain ⟨ho, hvr⟩ := hs r hm v hv
  exact (strLt_of_safe p r v ho hvr (hs v hv r hm).2).2.mp (ha v hv)

/-- a database whose version strings are versions and, product by product, ordered by `str <` as by their numbers
    (`C14.db_versions_order_safe` is this statement for the regenerated tables) -/
def DbSafe (db : DB) : Prop :=
  ∀ p a b, (p, a) ∈ dbVersionsOf db → (p, b) ∈ dbVersionsOf db → C14.orderSafe a b = true ∧ isVer a = true

/-- every version that ever reaches a time frame is a version string of the database, filed under its product -/
theorem update_in_db (db : DB) (items : List (Str × List Str)) (fs : Bool) (p v : Str) (pos : Nat)
    (h : (p, pos, v) ∈ allUpdates db items fs) : (p, v) ∈ dbVersionsOf db := by
  obtain ⟨vs, hadv, hu⟩ := (mem_allUpdates db items fs _).mp h
  obtain ⟨it, _, n, _, e, hl, hv⟩ := (mem_advertised db items vs).mp hadv
  obtain ⟨a, ha, hu1, _⟩ := mem_updatesOf hu
  have hc := ((mem_upd1 a _ _).mp hu1).2
  obtain ⟨d, hd, hadm, h1, h2⟩ := collect_sound a _ p v hc
  have hne := ((eligible_iff _ d).mp hadm).1
  obtain ⟨kv, hkv, hek⟩ := DBm.lookup_mem db _ _ e hl
  cases a with
  | none =>
    simp only [Option.getD_none, splitOn, List.mem_singleton] at hd
    subst hd
    exact absurd rfl hne
  | some str =>
    simp only [dbVersionsOf, List.mem_flatMap]
    refine ⟨kv, hkv, e, hek, some str, hv ▸ ha, ?_⟩
    simp only [List.mem_filterMap]
    refine ⟨d, hd, ?_⟩
    simp only [hne, if_false]
    rw [← h1, ← h2]

theorem numSafe_offered {db : DB} (hdb : DbSafe db) (items : List (Str × List Str)) (fs : Bool) (p : Str) (pos : Nat) :
    NumSafe (picks (allUpdates db items fs) p pos) :=
  fun a ha b hb => hdb p a b (update_in_db db items fs p a pos ((mem_picks _ _ _ _).mp ha))
    (update_in_db db items fs p b pos ((mem_picks _ _ _ _).mp hb))

/-- both bounds are numerically extreme over every database with numerically ordered version strings -/
theorem bounds_numeric_of_safe_db (db : DB) (hdb : DbSafe db) (items : List (Str × List Str)) (fs : Bool) (p : Str) :
    (∀ r, lower db items fs p = some r → ∀ v ∈ sinces db items fs p, compareVersion ⟨none, p, r, none, none⟩ v ≥ 0) ∧
    (∀ r, upper db items fs p = some r → ∀ v ∈ tills db items fs p, compareVersion ⟨none, p, r, none, none⟩ v ≤ 0) :=
  ⟨lower_numeric db items fs p (numSafe_offered hdb items fs p _), upper_numeric db items fs p (numSafe_offered hdb items fs p _)⟩

/-- table obligation (regenerated on every run): every version string of the two rating databases is a dot-separated
    decimal version -/
theorem gen_versions_wellformed : ∀ pv ∈ C14.dbVersions, isVer pv.2 = true := by
  decide +kernel

theorem dbSafe_of_sub (db : DB) (h : ∀ pv ∈ dbVersionsOf db, pv ∈ C14.dbVersions) : DbSafe db :=
  fun p a b ha hb => ⟨C14.db_versions_order_safe (a, b) (C14.mem_dbPairs p a b (h _ ha) (h _ hb)), gen_versions_wellformed (p, a) (h _ ha)⟩

/-- the regenerated databases are safe, by the two table obligations -/
theorem gen_db_safe : DbSafe Gen.ssh2db ∧ DbSafe Gen.ssh1db :=
  ⟨dbSafe_of_sub _ fun _ => List.mem_append_left _, dbSafe_of_sub _ fun _ => List.mem_append_right _⟩

/-- for the shipped tables, unconditionally: in every SSH-2 audit (every advertised lists, both roles) the printed lower
    bound of a product is numerically at least — and the printed upper bound numerically at most — every version the
    advertised algorithms contribute for it, by the model's `compareVersion` -/
theorem gen_bounds_numeric (items : List (Str × List Str)) (fs : Bool) (p : Str) :
    (∀ r, lower Gen.ssh2db items fs p = some r → ∀ v ∈ sinces Gen.ssh2db items fs p, compareVersion ⟨none, p, r, none, none⟩ v ≥ 0) ∧
    (∀ r, upper Gen.ssh2db items fs p = some r → ∀ v ∈ tills Gen.ssh2db items fs p, compareVersion ⟨none, p, r, none, none⟩ v ≤ 0) :=
  bounds_numeric_of_safe_db Gen.ssh2db gen_db_safe.1 items fs p

theorem gen_bounds_numeric_ssh1 (items : List (Str × List Str)) (fs : Bool) (p : Str) :
    (∀ r, lower Gen.ssh1db items fs p = some r → ∀ v ∈ sinces Gen.ssh1db items fs p, compareVersion ⟨none, p, r, none, none⟩ v ≥ 0) ∧
    (∀ r, upper Gen.ssh1db items fs p = some r → ∀ v ∈ tills Gen.ssh1db items fs p, compareVersion ⟨none, p, r, none, none⟩ v ≤ 0) :=
  bounds_numeric_of_safe_db Gen.ssh1db gen_db_safe.2 items fs p

/-- over a database with numerically ordered version strings, one more advertised algorithm leaves a
    lower bound in place or raises it, and leaves an upper bound in place or lowers it — by `compareVersion` -/
theorem add_name_monotone_numeric (db : DB) (hdb : DbSafe db) (items : List (Str × List Str)) (c n : Str) (fs : Bool) (p : Str) :
    (∀ a, lower db items fs p = some a →
      ∃ a', lower db (items ++ [(c, [n])]) fs p = some a' ∧ compareVersion ⟨none, p, a', none, none⟩ a ≥ 0) ∧
    (∀ t, upper db items fs p = some t →
      ∃ t', upper db (items ++ [(c, [n])]) fs p = some t' ∧ compareVersion ⟨none, p, t', none, none⟩ t ≤ 0) := by
  have hsub := advertised_sub_append db items [(c, [n])]
  obtain ⟨hnl, hnu⟩ := bounds_numeric_of_safe_db db hdb (items ++ [(c, [n])]) fs p
  obtain ⟨h1, h2⟩ := bounds_monotone db db items (items ++ [(c, [n])]) fs p hsub
  constructor
  · intro a ha
    obtain ⟨a', ha', _⟩ := h1 a ha
    exact ⟨a', ha', hnl a' ha' a (offered_mono hsub fs p _ a ((lower_is_greatest db items fs p).2 a ha).1)⟩
  · intro t ht
    obtain ⟨t', ht', _⟩ := h2 t ht
    exact ⟨t', ht', hnu t' ht' t (offered_mono hsub fs p _ t ((upper_is_smallest db items fs p).2 t ht).1)⟩

theorem gen_add_name_monotone (items : List (Str × List Str)) (c n : Str) (fs : Bool) (p : Str) :
    (∀ a, lower Gen.ssh2db items fs p = some a →
      ∃ a', lower Gen.ssh2db (items ++ [(c, [n])]) fs p = some a' ∧ compareVersion ⟨none, p, a', none, none⟩ a ≥ 0) ∧
    (∀ t, upper Gen.ssh2db items fs p = some t →
      ∃ t', upper Gen.ssh2db (items ++ [(c, [n])]) fs p = some t' ∧ compareVersion ⟨none, p, t', none, none⟩ t ≤ 0) :=
  add_name_monotone_numeric Gen.ssh2db gen_db_safe.1 items c n fs p

/-- a database in which one key exchange appeared in OpenSSH 9.9 and another in OpenSSH 10.0 -/
def witnessDb : DB := [(kexC, [{ name := s "a", desc := [[some (s "9.9")]] }, { name := s "b", desc := [[some (s "10.0")]] }])]

/-- the witness in full: the line, the bound, the version it should have been, and the judgement of `compareVersion` -/
theorem witness_line :
    compatText witnessDb [(kexC, [s "a", s "b"])] false true = some (s "OpenSSH 9.9+") ∧
    sinces witnessDb [(kexC, [s "a", s "b"])] true pOpenSSH = [s "9.9", s "10.0"] ∧
    compareVersion ⟨none, pOpenSSH, s "10.0", none, none⟩ (s "9.9") = 1 ∧
    compareVersion ⟨none, pLibSSH, s "0.10.6", none, none⟩ (s "0.9.8") = 1 ∧
    strLt (s "10.0") (s "9.9") = true ∧ C14.orderSafe (s "9.9") (s "10.0") = false := by
  simp only [witnessDb, s]
  decode_literals
  decide +kernel

/-- The numeric statement is false for arbitrary databases: `timeframe.py` compares version *strings*.
    A server advertising both algorithms of `witnessDb` gets `OpenSSH 9.9+` although the second algorithm only exists from
    10.0 on, and `compareVersion` itself says 10.0 is newer than 9.9. -/
theorem lower_bound_not_numeric_in_general :
    ¬ (∀ (db : DB) (items : List (Str × List Str)) (fs : Bool) (p r : Str), lower db items fs p = some r →
        ∀ v ∈ sinces db items fs p, compareVersion ⟨none, p, r, none, none⟩ v ≥ 0) := by
  intro h
  have hl : lower witnessDb [(kexC, [s "a", s "b"])] true pOpenSSH = some (s "9.9") := by
    simp only [witnessDb, s]
    decode_literals
    decide +kernel
  have := h _ _ _ _ _ hl (s "10.0") (by rw [witness_line.2.1]; exact List.mem_cons_of_mem _ (List.mem_singleton.mpr rfl))
  revert this
  simp only [s]
  decode_literals
  decide +kernel

/-- the text of `display(False)` -/
def shortForm (sw : Software) : Str :=
  (match sw.vendor with | some v => if v ≠ [] then v ++ [' '] else [] | none => []) ++ sw.product ++
    (if sw.version ≠ [] then ' ' :: sw.version else [])

/-- what `display(True)` adds for the patch: an OpenSSH patch starting with `pN` has the `pN` glued to the version and the
    stripped remainder (when non-empty) in parentheses; every other non-empty patch goes into parentheses as it is -/
def patchPart (sw : Software) : Str :=
  let patch := sw.patch.getD []
  let paren (x : Str) : Str := if x ≠ [] then [' ', '('] ++ x ++ [')'] else []
  if sw.product = pOpenSSH then
    match pPatchSplit patch with
    | some (g1, g2) => g1 ++ paren (pyStrip g2)
    | none => paren patch
  else paren patch

def osPart (sw : Software) : Str :=
  match sw.os with
  | some o => if o ≠ [] then [' ','r','u','n','n','i','n','g',' ','o','n',' '] ++ o else []
  | none => []

theorem display_short (sw : Software) : display sw false = shortForm sw := by
  obtain ⟨vendor, product, version, patch, os⟩ := sw
  cases vendor <;> by_cases hv : version = [] <;> simp [display, shortForm, hv]

/-- `display(True)` is `str(software)`, the text of the `(gen) software:` line -/
theorem display_full (sw : Software) : display sw true = shortForm sw ++ patchPart sw ++ osPart sw := by
  obtain ⟨vendor, product, version, patch, os⟩ := sw
  -- each step `if c then r ++ x else r` of `display` is written `r ++ (if c then x else [])` (`ite_append`; `paren`, `hos` for parts of several pieces)
  have paren : ∀ r x : Str, (if x ≠ [] then r ++ [' ', '('] ++ x ++ [')'] else r) = r ++ (if x ≠ [] then [' ', '('] ++ x ++ [')'] else []) :=
    fun r x => by rw [← ite_append]; simp only [List.append_assoc]
  have hos : ∀ x y a : Str, x = y →
      (match os with | some o => if o ≠ [] then x ++ a ++ o else x | none => x) =
        y ++ (match os with | some o => if o ≠ [] then a ++ o else [] | none => []) := by
    intro x y a e
    subst e
    cases os with
    | none => exact (List.append_nil x).symm
    | some o => rw [← ite_append]; simp only [List.append_assoc]
  simp only [display, shortForm, patchPart, osPart, Bool.not_true, Bool.false_eq_true, if_false, ite_append]
  -- vendor, product and version enter both sides through the same text
  generalize (match vendor with | some v => if v ≠ [] then v ++ [' '] else [] | none => ([] : Str)) ++ product ++
    (if version ≠ [] then ' ' :: version else []) = r2
  simp only [paren]
  apply hos
  by_cases hp : product = pOpenSSH
  · simp only [hp, if_true]
    cases pPatchSplit (patch.getD []) with
    | none => rfl
    | some g => simp only [List.append_assoc]
  · simp only [hp, if_false]

/-- the short form is a prefix of the full one -/
theorem display_prefix (sw : Software) : ∃ rest, display sw true = display sw false ++ rest :=
  ⟨patchPart sw ++ osPart sw, by rw [display_full, display_short, List.append_assoc]⟩

/-- a portable OpenSSH release: `OpenSSH 7.4p1`; with a suffix after `pN`: `OpenSSH 7.4p1 (hpn14v1)` -/
theorem display_openssh_portable (v : Str) (d : Char) (hd : isDigit d = true) (rest : Str) (hr : '\n' ∉ rest) (os : Option Str) :
    display ⟨none, pOpenSSH, v, some ('p' :: d :: rest), os⟩ true =
      pOpenSSH ++ (if v ≠ [] then ' ' :: v else []) ++ ['p', d] ++
        (if pyStrip rest ≠ [] then [' ', '('] ++ pyStrip rest ++ [')'] else []) ++ osPart ⟨none, pOpenSSH, v, some ('p' :: d :: rest), os⟩ := by
  rw [display_full]
  simp only [shortForm, patchPart, Option.getD_some, pPatchSplit, hd, if_true, dotTail_noNl rest hr, Option.map_some,
    List.nil_append, List.append_assoc]

/-- products other than OpenSSH: the patch always goes into parentheses -/
theorem display_other_patch (vendor : Option Str) (prod v pa : Str) (hprod : prod ≠ pOpenSSH) (hpa : pa ≠ []) :
    display ⟨vendor, prod, v, some pa, none⟩ true = display ⟨vendor, prod, v, some pa, none⟩ false ++ [' ', '('] ++ pa ++ [')'] := by
  rw [display_full, display_short]
  simp [patchPart, osPart, hprod, hpa]

theorem display_plain (vendor : Option Str) (prod v : Str) :
    display ⟨vendor, prod, v, none, none⟩ true = display ⟨vendor, prod, v, none, none⟩ false := by
  rw [display_full, display_short]
  simp only [patchPart, osPart, Option.getD_none]
  have : pPatchSplit [] = none := rfl
  split <;> simp [this]

/-- a version of at least two characters (`7.4`, `10`, `2022.83` — not the bare `9`, which `[\d\.]+\d+` rejects) -/
def Ver2 (ds : List Str) : Prop := WfDs ds ∧ 2 ≤ (render ds).length

/-- `SSH-2.0-OpenSSH_<version><patch>` is recognised for every version of two or more characters and every patch suffix of
    the C14 grammar -/
theorem parse_openssh (ds : List Str) (h : Ver2 ds) (pa : Str) (hp : PatchShape pa) (comments : Option Str) :
    parse (some (['O','p','e','n','S','S','H','_'] ++ (render ds ++ pa))) comments =
      some ⟨none, pOpenSSH, render ds, fixPatch pa, extractOs comments⟩ := by
  obtain ⟨c0, rest0, e0, hc0⟩ := render_first ds h.1
  have hsep : isPatchSep c0 = false := by
    simp [isPatchSep, isDigit_ne hc0 (x := '_') rfl, isDigit_ne hc0 (x := '.') rfl, isDigit_ne hc0 (x := '-') rfl]
  have hov : opensshVer (['O','p','e','n','S','S','H','_'] ++ (render ds ++ pa)) = some (render ds, pa) := by
    unfold opensshVer
    have : (['O','p','e','n','S','S','H','_'] ++ (render ds ++ pa)) = pOpenSSH ++ ('_' :: (render ds ++ pa)) := rfl
    rw [this, stripPrefix?_append]
    have hseps : ('_' :: (render ds ++ pa)).takeWhile isPatchSep = ['_'] := by
      rw [e0]
      have h1 : isPatchSep '_' = true := by decide
      simp [h1, hsep]
    simp only [hseps, List.length_singleton, List.range_one, List.reverse_singleton, List.findSome?_cons, List.drop_succ_cons, List.drop_zero,
      verPrefix, verPrefixN_render 2 ds h.1 h.2 pa hp, Option.map_some, dotStar_noNl pa hp.noNl]
  unfold parse
  simp only [Option.getD_some, List.cons_append, List.nil_append]
  rw [nameVer_miss _ _ _ _ (by decide)]
  simp only [List.cons_append, List.nil_append] at hov
  simp only [hov]

/-- the software line of an OpenSSH banner: `OpenSSH <version>` + the patch part + the os part -/
theorem software_line_openssh (proto : Nat × Nat) (va : Bool) (ds : List Str) (h : Ver2 ds) (pa : Str) (hp : PatchShape pa) (comments : Option Str) :
    softwareLine (some ⟨proto, some (['O','p','e','n','S','S','H','_'] ++ (render ds ++ pa)), comments, va⟩) =
      some (s "(gen) software: " ++ display ⟨none, pOpenSSH, render ds, fixPatch pa, extractOs comments⟩ true) := by
  simp only [softwareLine, softwareText, softwareOf, parse_openssh ds h pa hp comments, Option.map_some]

/-- `SSH-2.0-dropbear_<version><patch>` -/
theorem parse_dropbear (ds : List Str) (h : Ver2 ds) (pa : Str) (hp : PatchShape pa) (comments : Option Str) :
    parse (some (['d','r','o','p','b','e','a','r','_'] ++ (render ds ++ pa))) comments =
      some ⟨none, pDropbear, render ds, fixPatch pa, none⟩ := by
  unfold parse
  simp only [Option.getD_some, nameVer_hit _ ds h.1 h.2 pa hp]

/-- `SSH-2.0-libssh-<version><patch>` and `SSH-2.0-libssh_<version><patch>` -/
theorem parse_libssh (sep : Char) (hsep : sep = '-' ∨ sep = '_') (ds : List Str) (h : Ver2 ds) (pa : Str) (hp : PatchShape pa) (comments : Option Str) :
    parse (some (['l','i','b','s','s','h', sep] ++ (render ds ++ pa))) comments =
      some ⟨none, pLibSSH, render ds, fixPatch pa, extractOs comments⟩ := by
  have hov : opensshVer (['l','i','b','s','s','h', sep] ++ (render ds ++ pa)) = none := by
    unfold opensshVer pOpenSSH
    simp only [List.cons_append]
    rw [stripPrefix?_head_ne _ _ _ _ (by decide)]
  have hit := nameVer_hit ['l','i','b','s','s','h', sep] ds h.1 h.2 pa hp
  unfold parse
  simp only [Option.getD_some, List.cons_append, List.nil_append] at hov hit ⊢
  rw [nameVer_miss 'd' _ 'l' _ (by decide)]
  rcases hsep with rfl | rfl
  · simp only [hov, hit]
  · -- `libssh-` is tried first and fails at the separator
    have h1 : nameVer ['l','i','b','s','s','h','-'] ('l' :: 'i' :: 'b' :: 's' :: 's' :: 'h' :: '_' :: (render ds ++ pa)) = none := by
      simp [nameVer, stripPrefix?]
    simp only [hov, h1, hit]

/-- empty, or starting with a space, or (when `o` holds) with `p`: how the parts of `display` begin -/
def SpaceOrP (o : Prop) (l : Str) : Prop := l = [] ∨ (∃ cs, l = ' ' :: cs) ∨ (∃ cs, l = 'p' :: cs ∧ o)

theorem SpaceOrP.append {o : Prop} {a b : Str} (ha : SpaceOrP o a) (hb : SpaceOrP o b) : SpaceOrP o (a ++ b) := by
  rcases ha with rfl | ⟨cs, rfl⟩ | ⟨cs, rfl, h⟩
  · exact hb
  · exact Or.inr (Or.inl ⟨cs ++ b, rfl⟩)
  · exact Or.inr (Or.inr ⟨cs ++ b, rfl, h⟩)

theorem SpaceOrP.ite {o : Prop} (c : Prop) [Decidable c] (cs : Str) : SpaceOrP o (if c then ' ' :: cs else []) := by
  split
  · exact Or.inr (Or.inl ⟨cs, rfl⟩)
  · exact Or.inl rfl

theorem patchPart_start (sw : Software) : SpaceOrP (sw.product = pOpenSSH) (patchPart sw) := by
  simp only [patchPart, List.cons_append, List.nil_append]
  split
  · next hp =>
    split
    · next g1 g2 hps =>
      obtain ⟨d, rfl⟩ := pPatchSplit_g1 _ g1 g2 hps
      exact Or.inr (Or.inr ⟨_, rfl, hp⟩)
    · exact SpaceOrP.ite _ _
  · exact SpaceOrP.ite _ _

theorem osPart_start (o : Prop) (sw : Software) : SpaceOrP o (osPart sw) := by
  simp only [osPart, List.cons_append, List.nil_append]
  split
  · exact SpaceOrP.ite _ _
  · exact Or.inl rfl

/-- the banner spellings want `_`, `-` or `.` after the name; seven texts with an open end against the ten expressions of
    `parse`, by evaluation -/
theorem parse_product_text (prod rest : Str) (comments : Option Str)
    (hprod : prod = pOpenSSH ∨ prod = pDropbear ∨ prod = pLibSSH) (hrest : SpaceOrP (prod = pOpenSSH) rest) :
    parse (some (prod ++ rest)) comments = none := by
  rcases hprod with rfl | rfl | rfl
  · rcases hrest with rfl | ⟨cs, rfl⟩ | ⟨cs, rfl, _⟩
    · rfl
    · rfl
    · rfl
  · rcases hrest with rfl | ⟨cs, rfl⟩ | ⟨cs, _, h⟩
    · rfl
    · rfl
    · exact absurd h (by decide)
  · rcases hrest with rfl | ⟨cs, rfl⟩ | ⟨cs, _, h⟩
    · rfl
    · rfl
    · exact absurd h (by decide)

/-- `Software.parse` reads the *banner* spelling (`OpenSSH_7.4p1`), `display` writes the *report* spelling
    (`OpenSSH 7.4p1`): the text `display` produces for an OpenSSH, Dropbear SSH or libssh release — short or full, whatever
    the version, patch and os — is never recognised again by `parse`.  There is no `parse ∘ display` round trip; the supported
    direction is `display ∘ parse` (`software_line_openssh`, `parse_dropbear`, `parse_libssh`). -/
theorem display_not_parsable (prod v : Str) (patch os : Option Str) (full : Bool) (comments : Option Str)
    (hprod : prod = pOpenSSH ∨ prod = pDropbear ∨ prod = pLibSSH) :
    parse (some (display ⟨none, prod, v, patch, os⟩ full)) comments = none := by
  have hshort : shortForm ⟨none, prod, v, patch, os⟩ = prod ++ (if v ≠ [] then ' ' :: v else []) := rfl
  cases full
  · rw [display_short, hshort]
    exact parse_product_text prod _ comments hprod (SpaceOrP.ite _ _)
  · rw [display_full, hshort, List.append_assoc, List.append_assoc]
    exact parse_product_text prod _ comments hprod
      ((SpaceOrP.ite _ _).append ((patchPart_start _).append (osPart_start _ _)))

/-- the software line is printed exactly when `Software.parse` recognises the banner — in server and client audits alike -/
theorem software_line_iff (b : Option Banner.Banner) : (softwareLine b).isSome = (softwareOf b).isSome := by
  simp [softwareLine, softwareText]

theorem no_banner_no_software : softwareLine none = none := rfl

/-- where the line stands: after the target / client IP / header / banner / software lines and before the compression line;
    it is one `out.good(…)` call without `always_print`, and nothing else of the section depends on it.  (`generalItems` is a
    concatenation of one piece per field of its input, so a copy of `inp` with fields cleared selects pieces: the first copy those
    before the compatibility item, the last copy those after it.) -/
theorem general_items_compat (inp : Output.Input) :
    Output.generalItems inp =
      Output.generalItems { inp with compat := none, hasKex := false } ++ compatItems inp.compat ++
      Output.generalItems { inp with target := none, clientIP := none, header := none, banner := none, compat := none } := by
  simp only [Output.generalItems, compatItems]
  cases inp.compat <;> simp only [List.append_assoc, List.append_nil, List.nil_append, List.cons_append, Bool.false_eq_true, if_false]

/-- the same for an audit: the compatibility item of `output()` is `compatItems` of the model's text for the server frame -/
theorem general_items_of_audit (db : DB) (peer : Report.Peer) (banner : Option Banner.Banner) (ch : Option Str) (inp : Output.Input) :
    Output.generalItems (fill db peer banner ch inp) =
      Output.generalItems { fill db peer banner ch inp with compat := none, hasKex := false } ++
      compatItems (compatText db (items2 peer) ch.isSome true) ++
      Output.generalItems { fill db peer banner ch inp with target := none, clientIP := none, header := none, banner := none, compat := none } :=
  general_items_compat (fill db peer banner ch inp)

/-- the software text `output()` shows is `display(True)` of the parsed banner; the recommendations title uses `display(False)` -/
theorem software_of_audit (db : DB) (peer : Report.Peer) (b : Banner.Banner) (ch : Option Str) (inp : Output.Input) :
    ((fill db peer (some b) ch inp).banner.bind (·.software)) = (parse b.software b.comments).map (fun sw => display sw true) ∧
    (fill db peer (some b) ch inp).swDisplay = (parse b.software b.comments).map (fun sw => display sw false) := ⟨rfl, rfl⟩

/-- no output option reaches either text: `fill` has no `Cfg` argument, and the items made from them are the same under every
    option set (the level filter, colours and batch mode act on the finished items — `C15`) -/
theorem lines_option_free (cfg cfg' : Output.Cfg) (db : DB) (peer : Report.Peer) (banner : Option Banner.Banner) (ch : Option Str) (inp : Output.Input) :
    (Output.sections cfg (fill db peer banner ch inp)).head?.map (·.items) = (Output.sections cfg' (fill db peer banner ch inp)).head?.map (·.items) := by
  -- the first section is `generalItems`, which has no `cfg` argument
  simp only [Output.sections, List.cons_append, List.head?_cons, Option.map_some]

theorem parts_server_eq_ssh1 (tf : Timeframe) : partsFor tf true = Ssh1Report.compatParts tf := by
  unfold partsFor shownProducts Ssh1Report.compatParts
  congr 1

/-- so every theorem above holds for the compatibility line of an SSH-1 audit as well (items: `key ↦ [ssh-rsa1]`, the
    ciphers, the authentication types) -/
theorem compat1_eq (db1 : DB) (cs au : List Str) (client : Bool) :
    Ssh1Report.compat1 db1 cs au client = compatText db1 [(keyC, [Ssh1Report.rsa1]), (encC, cs), (autC, au)] client true := by
  unfold Ssh1Report.compat1 compatText timeframe Ssh1Report.timeframe1
  rw [parts_server_eq_ssh1]

def it4 (kex key enc mac : List String) : List (Str × List Str) :=
  [(kexC, kex.map s), (keyC, key.map s), (encC, enc.map s), (macC, mac.map s)]

example : compatText Gen.ssh2db (it4 ["curve25519-sha256"] ["ssh-ed25519"] ["aes256-ctr"] ["hmac-sha2-256"]) false true
    = some (s "OpenSSH 7.4+, Dropbear SSH 2020.79+") := by
  simp only [it4, List.map, s]
  decode_literals
  decide +kernel
-- the same lists permuted and with a repeated and an unknown name: the same line
example : compatText Gen.ssh2db (it4 ["nonsense@example.com", "curve25519-sha256", "curve25519-sha256"] ["ssh-ed25519"] ["aes256-ctr"] ["hmac-sha2-256"]) false true
    = some (s "OpenSSH 7.4+, Dropbear SSH 2020.79+") := by
  simp only [it4, List.map, s]
  decode_literals
  decide +kernel
example : compatText Gen.ssh2db (it4 ["curve25519-sha256"] ["ssh-ed25519"] ["aes256-ctr"] ["hmac-sha2-256"]) true true = none :=
  client_audit_prints_nothing _ _ _
example : compatText Gen.ssh2db (it4 ["diffie-hellman-group1-sha1"] [] [] []) false true
    = some (s "OpenSSH 2.3.0-6.6, Dropbear SSH 0.28+") := by
  simp only [it4, List.map, s]
  decode_literals
  decide +kernel
-- lower bound above the upper bound
example : compatText Gen.ssh2db (it4 ["sntrup4591761x25519-sha512@tinyssh.org", "mlkem768x25519-sha256"] [] [] []) false true
    = some (s "OpenSSH 9.9+ (some functionality from 8.4)") := by
  simp only [it4, List.map, s]
  decode_literals
  decide +kernel
-- both bounds equal: the single version
example : compatText Gen.ssh2db (it4 [] [] ["blowfish-cbc", "3des-ctr"] []) false true
    = some (s "OpenSSH 1.2.2-6.6, Dropbear SSH 0.52") := by
  simp only [it4, List.map, s]
  decode_literals
  decide +kernel
-- server frame and client frame of the same list differ (`versions[1]` against `versions[2]`)
example : compatText Gen.ssh2db (it4 [] [] ["blowfish-cbc"] []) false true = some (s "OpenSSH 1.2.2-6.6, Dropbear SSH 0.28-0.52")
    ∧ compatText Gen.ssh2db (it4 [] [] ["blowfish-cbc"] []) false false = some (s "OpenSSH 1.2.2-7.1, Dropbear SSH 0.28-0.52") := by
  simp only [it4, List.map, s]
  decode_literals
  decide +kernel
-- one product only; the Dropbear-only and the OpenSSH-only algorithm do not remove each other's product
example : compatText Gen.ssh2db (it4 ["diffie-hellman-group18-sha512"] [] [] []) false true = some (s "OpenSSH 7.3+")
    ∧ compatText Gen.ssh2db (it4 ["kexguess2@matt.ucc.asn.au"] [] [] []) false true = some (s "Dropbear SSH 2013.57+")
    ∧ compatText Gen.ssh2db (it4 ["diffie-hellman-group18-sha512", "kexguess2@matt.ucc.asn.au"] [] [] []) false true
        = some (s "OpenSSH 7.3+, Dropbear SSH 2013.57+") := by
  simp only [it4, List.map, s]
  decode_literals
  decide +kernel
-- names without a version entry, unknown names, nothing: no line
example : compatText Gen.ssh2db (it4 ["curve448-sha512", "nonsense"] [] [] []) false true = none
    ∧ compatText Gen.ssh2db (it4 [] [] [] []) false true = none := by
  simp only [it4, List.map, s]
  decode_literals
  decide +kernel
example : sinces Gen.ssh2db (it4 ["curve25519-sha256"] ["ssh-ed25519"] [] []) true pOpenSSH = [s "7.4", s "6.5"]
    ∧ lower Gen.ssh2db (it4 ["curve25519-sha256"] ["ssh-ed25519"] [] []) true pOpenSSH = some (s "7.4")
    ∧ tills Gen.ssh2db (it4 ["diffie-hellman-group1-sha1"] ["ssh-dss"] [] []) true pOpenSSH = [s "6.6", s "6.9"]
    ∧ upper Gen.ssh2db (it4 ["diffie-hellman-group1-sha1"] ["ssh-dss"] [] []) true pOpenSSH = some (s "6.6") := by
  simp only [it4, List.map, s]
  decode_literals
  decide +kernel
example : isVer (s "10.0") = true ∧ isVer (s "0.10.6") = true ∧ isVer (s "2022.83") = true ∧ isVer (s "7..4") = false ∧ isVer (s "7.4p1") = false ∧ isVer [] = false := by
  unfold s
  decode_literals
  decide +kernel
-- an order-safe database with multi-digit components: there the bound is the numeric one
example : lower [(kexC, [{ name := s "a", desc := [[some (s "10.0")]] }, { name := s "b", desc := [[some (s "11.2")]] }])] [(kexC, [s "b", s "a"])] true pOpenSSH
    = some (s "11.2") ∧ C14.orderSafe (s "10.0") (s "11.2") = true := by
  unfold s
  decode_literals
  decide +kernel
example : display ⟨none, pOpenSSH, s "7.4", some (s "p1"), none⟩ true = s "OpenSSH 7.4p1"
    ∧ display ⟨none, pOpenSSH, s "7.4", some (s "p1-hpn14v1"), some (s "FreeBSD (2017-09-02)")⟩ true = s "OpenSSH 7.4p1 (-hpn14v1) running on FreeBSD (2017-09-02)"
    ∧ display ⟨none, pDropbear, s "2022.83", none, none⟩ true = s "Dropbear SSH 2022.83"
    ∧ display ⟨some (s "Allegro Software"), s "RomSShell", s "5.40", some (s "x"), none⟩ true = s "Allegro Software RomSShell 5.40 (x)"
    ∧ display ⟨some (s "Allegro Software"), s "RomSShell", s "5.40", some (s "x"), none⟩ false = s "Allegro Software RomSShell 5.40" := by
  unfold s
  decode_literals
  decide +kernel
example : softwareLine (some ⟨(2, 0), some (s "OpenSSH_10.0p2"), some (s "Debian-5"), true⟩) = some (s "(gen) software: OpenSSH 10.0p2")
    ∧ softwareLine (some ⟨(2, 0), some (s "libssh_0.10.6"), none, true⟩) = some (s "(gen) software: libssh 0.10.6")
    ∧ softwareLine (some ⟨(2, 0), some (s "Unknown_1.0"), none, true⟩) = none := by
  unfold s
  decode_literals
  decide +kernel
example : Ver2 [s "10", s "0"] ∧ ¬ Ver2 [s "9"] :=
  ⟨⟨wfDs_canon [10, 0] (by decide), by decide⟩, fun h => absurd h.2 (by decide)⟩

end SshAudit.C14Compat
