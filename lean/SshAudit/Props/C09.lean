/-
  C09 — No peer can crash, hang or fool the auditor.

  Model: SshAudit.Model.Session (receive side of SSH_Socket over an arbitrary finite event list per
  connection; `handshakeS` = banner + first packet + KEXINIT parse, classified as `audit()` does;
  `auditEnd` = how each class ends; `catchProbe` = the probe handlers, which catch `(Exception, SystemExit)` (D15)).

  What is proved here holds for *every* finite peer behaviour (any bytes, segmentation, stalls, resets):
  the reader functions stop at the first stall, make a bounded number of `recv` calls, never raise
  anything but the two framing exits, and every handshake class other than `ok` ends with status 1
  and no algorithm report.  PARTIAL: wall-clock time is not modelled (a stall is one event); the
  byte-level content of probe replies is covered by C11/C12 and by fault-injection correspondence.
-/
import SshAudit.Model.Session
import SshAudit.Props.C02
import SshAudit.Props.C10
namespace SshAudit.C09
open SshAudit SshAudit.Session

/-! `Free s s'`: a reader call that succeeded — no stall, one `recv` per consumed event.  `Cost s s'`: any call — at most one stall and one `recv`
  more.  Successful calls compose among themselves and in front of one arbitrary call; what a call does to the buffer does not matter. -/

structure Cost (s s' : Sock) : Prop where
  recvs_le : s'.recvs ≤ s.recvs + (s.events.length - s'.events.length) + 1
  consumed : s'.events.length ≤ s.events.length
  stalls_le : s'.stalls ≤ s.stalls + 1

structure Free (s s' : Sock) : Prop where
  recvs_le : s'.recvs ≤ s.recvs + (s.events.length - s'.events.length)
  consumed : s'.events.length ≤ s.events.length
  stalls_eq : s'.stalls = s.stalls

/-- one `recv()`: one call more, at most one stall more, and a stall is a timeout or an error -/
theorem recv_spec (s : Sock) :
    (recv s).2.recvs = s.recvs + 1 ∧ (recv s).2.events.length ≤ s.events.length ∧
    ((recv s).1 = .got → (recv s).2.stalls = s.stalls ∧ (recv s).2.events.length + 1 = s.events.length) ∧
    ((recv s).1 ≠ .got → (recv s).2.stalls ≤ s.stalls + 1) ∧
    ((recv s).2.stalls = s.stalls + 1 → (recv s).1 = .timedOut ∨ (recv s).1 = .failed) ∧
    (recv s).2.stalls ≤ s.stalls + 1 ∧
    ((recv s).2.events.length = s.events.length → s.events = []) := by
  fun_cases recv s <;> simp [*]

theorem recvs_add {ra rb rc ea eb ec k : Nat} (h1 : rb ≤ ra + (ea - eb)) (h2 : rc ≤ rb + (eb - ec) + k) (hb : eb ≤ ea) (hc : ec ≤ eb) :
    rc ≤ ra + (ea - ec) + k :=
  calc rc ≤ rb + (eb - ec) + k := h2
    _ ≤ ra + (ea - eb) + (eb - ec) + k := Nat.add_le_add_right (Nat.add_le_add_right h1 _) _
    _ = ra + (ea - ec) + k := by rw [Nat.add_assoc ra, Nat.sub_add_sub_cancel hb hc]

theorem Free.refl (s : Sock) : Free s s := ⟨Nat.le_add_right _ _, Nat.le_refl _, rfl⟩
theorem Free.trans {a b c : Sock} (h : Free a b) (h' : Free b c) : Free a c :=
  ⟨recvs_add (k := 0) h.recvs_le h'.recvs_le h.consumed h'.consumed, Nat.le_trans h'.consumed h.consumed, h'.stalls_eq.trans h.stalls_eq⟩
theorem Free.then {a b c : Sock} (h : Free a b) (h' : Cost b c) : Cost a c :=
  ⟨recvs_add h.recvs_le h'.recvs_le h.consumed h'.consumed, Nat.le_trans h'.consumed h.consumed, h.stalls_eq ▸ h'.stalls_le⟩
theorem Free.cost {a b : Sock} (h : Free a b) : Cost a b := h.then ⟨Nat.le_trans (Nat.le_add_right _ _) (Nat.le_add_right _ _), Nat.le_refl _, Nat.le_add_right _ _⟩
theorem Free.unbuf {a b : Sock} {x : Bytes} (h : Free { a with buf := x } b) : Free a b := ⟨h.1, h.2, h.3⟩
theorem Cost.unbuf {a b : Sock} {x : Bytes} (h : Cost { a with buf := x } b) : Cost a b := ⟨h.1, h.2, h.3⟩
theorem Cost.buf {a b : Sock} (h : Cost a b) (x : Bytes) : Cost a { b with buf := x } := ⟨h.1, h.2, h.3⟩

/-- two arbitrary calls, in the form `handshake_cost` states (all events counted, consumed or not); it does not chain: for more calls take the
    fields of each `Cost` and add them up with `omega` -/
theorem Cost.two {a b c : Sock} (h : Cost a b) (h' : Cost b c) : c.stalls ≤ a.stalls + 2 ∧ c.recvs ≤ a.recvs + a.events.length + 2 := by
  obtain ⟨h1, h2, h3⟩ := h
  obtain ⟨g1, g2, g3⟩ := h'
  exact ⟨by omega, by omega⟩

theorem recv_free {s s' : Sock} (h : recv s = (.got, s')) : Free s s' := by
  obtain ⟨hrecvs, _, hgot, _⟩ := recv_spec s
  obtain ⟨g1, g2⟩ := hgot (congrArg Prod.fst h)
  rw [← show (recv s).2 = s' from congrArg Prod.snd h]
  exact ⟨by omega, by omega, g1⟩

theorem recv_cost {s s' : Sock} {x : RecvRes} (h : recv s = (x, s')) : Cost s s' ∧ (s'.stalls = s.stalls + 1 → x = .timedOut ∨ x = .failed) := by
  obtain ⟨hrecvs, hevents, _, _, hstall, hstalls, _⟩ := recv_spec s
  rw [← show (recv s).2 = s' from congrArg Prod.snd h, ← show (recv s).1 = x from congrArg Prod.fst h]
  exact ⟨⟨by omega, hevents, hstalls⟩, hstall⟩

theorem ensureReadAux_run (fuel n : Nat) (s : Sock) :
    ((ensureReadAux fuel n s).1 = none → Free s (ensureReadAux fuel n s).2 ∧ n ≤ (ensureReadAux fuel n s).2.buf.length) ∧
    (∀ x, (ensureReadAux fuel n s).1 = some x → Cost s (ensureReadAux fuel n s).2 ∧
      ((ensureReadAux fuel n s).2.stalls = s.stalls + 1 → x = .timedOut ∨ x = .failed)) := by
  fun_induction ensureReadAux fuel n s with
  | case1 n s hb | case3 _ n s hb => exact ⟨fun _ => ⟨Free.refl s, hb⟩, nofun⟩
  | case2 n s _ => exact ⟨nofun, fun _ hy => Option.some.inj hy ▸ recv_cost rfl⟩
  | case4 _ n s _ s1 hrs ih =>
    have f := recv_free hrs
    exact ⟨fun h => ⟨f.trans (ih.1 h).1, (ih.1 h).2⟩, fun x hx => ⟨f.then (ih.2 x hx).1, fun hs => (ih.2 x hx).2 (f.stalls_eq ▸ hs)⟩⟩
  | case5 _ n s _ s1 r _ hrs => exact ⟨nofun, fun _ hy => Option.some.inj hy ▸ recv_cost hrs⟩

-- the conjunction-valued theorems from here to `readPacket_cost` restate the `Free` / `Cost` lemmas clause by clause

/-- `ensure_read`: never more than one stall; a stall means the call reports failure; bounded `recv` calls -/
theorem ensureReadAux_spec (fuel n : Nat) (s : Sock) (hf : s.events.length ≤ fuel) :
    let r := ensureReadAux fuel n s
    r.2.stalls ≤ s.stalls + 1 ∧ (r.2.stalls = s.stalls + 1 → r.1 = some .timedOut ∨ r.1 = some .failed) ∧
    r.2.events.length ≤ s.events.length ∧ r.2.recvs ≤ s.recvs + (s.events.length - r.2.events.length) + 1 ∧
    (r.1 = none → r.2.recvs ≤ s.recvs + (s.events.length - r.2.events.length) ∧ r.2.stalls = s.stalls ∧ n ≤ r.2.buf.length) := by
  intro r
  obtain ⟨hn, hs⟩ := ensureReadAux_run fuel n s
  cases hr : r.1 with
  | none =>
    obtain ⟨f, hb⟩ := hn hr
    exact ⟨f.cost.stalls_le, fun h => absurd (f.stalls_eq.symm.trans h) (Nat.ne_of_lt (Nat.lt_succ_self _)), f.consumed, f.cost.recvs_le,
      fun _ => ⟨f.recvs_le, f.stalls_eq, hb⟩⟩
  | some x =>
    obtain ⟨c, hx⟩ := hs x hr
    exact ⟨c.stalls_le, fun h => (hx h).imp (congrArg some) (congrArg some), c.consumed, c.recvs_le, fun h => nomatch h⟩

theorem ensureRead_spec (n : Nat) (s : Sock) :
    let r := ensureRead n s
    r.2.stalls ≤ s.stalls + 1 ∧ (r.2.stalls = s.stalls + 1 → r.1 = some .timedOut ∨ r.1 = some .failed) ∧
    r.2.events.length ≤ s.events.length ∧ r.2.recvs ≤ s.recvs + (s.events.length - r.2.events.length) + 1 ∧
    (r.1 = none → r.2.recvs ≤ s.recvs + (s.events.length - r.2.events.length) ∧ r.2.stalls = s.stalls ∧ n ≤ r.2.buf.length) :=
  ensureReadAux_spec s.events.length n s (Nat.le_refl _)

theorem ensureRead_free {n : Nat} {s s' : Sock} (h : ensureRead n s = (none, s')) : Free s s' ∧ n ≤ s'.buf.length := by
  have := (ensureReadAux_run s.events.length n s).1
  rw [← ensureRead, h] at this
  exact this rfl

theorem ensureRead_cost {n : Nat} {s s' : Sock} {r : RecvRes} (h : ensureRead n s = (some r, s')) : Cost s s' := by
  have := (ensureReadAux_run s.events.length n s).2 r
  rw [← ensureRead, h] at this
  exact (this rfl).1

theorem ensureRead_ok (n : Nat) (s s' : Sock) (h : ensureRead n s = (none, s')) :
    s'.stalls = s.stalls ∧ s'.recvs ≤ s.recvs + (s.events.length - s'.events.length) ∧ s'.events.length ≤ s.events.length :=
  have f := (ensureRead_free h).1
  ⟨f.stalls_eq, f.recvs_le, f.consumed⟩

theorem ensureRead_fail (n : Nat) (s s' : Sock) (r : RecvRes) (h : ensureRead n s = (some r, s')) :
    s'.stalls ≤ s.stalls + 1 ∧ s'.recvs ≤ s.recvs + (s.events.length - s'.events.length) + 1 ∧ s'.events.length ≤ s.events.length :=
  have c := ensureRead_cost h
  ⟨c.stalls_le, c.recvs_le, c.consumed⟩

theorem getBannerAux_cost (fuel : Nat) (h : List Str) (s : Sock) : Cost s (getBannerAux fuel h s).2.2.2 := by
  fun_induction getBannerAux fuel h s with
  -- out of fuel
  | case1 h s => exact (Free.refl s).cost
  -- data received, banner found
  | case2 _ _ _ _ _ _ _ _ hrs => exact (recv_free hrs).cost.buf _
  -- data received, no banner yet: the recursive call
  | case3 _ _ _ _ _ _ _ hrs ih => exact (recv_free hrs).then ih.unbuf
  -- the peer stopped (stall, error, close): final lines, with or without a banner
  | case4 _ _ _ _ _ _ _ _ _ _ hrs | case5 _ _ _ _ _ _ _ _ _ hrs => exact (recv_cost hrs).1.buf _

/-- **Reading the identification string stalls at most once** (the loop returns at the first timeout, error or close,
    after reading what is left in the buffer as final lines: D17), and it makes at most one `recv` per
    peer event plus one — so it terminates for every finite peer. -/
theorem getBannerAux_spec (fuel : Nat) (h : List Str) (s : Sock) :
    let r := getBannerAux fuel h s
    r.2.2.2.stalls ≤ s.stalls + 1 ∧ r.2.2.2.events.length ≤ s.events.length ∧
    r.2.2.2.recvs ≤ s.recvs + (s.events.length - r.2.2.2.events.length) + 1 :=
  have c := getBannerAux_cost fuel h s
  ⟨c.stalls_le, c.consumed, c.recvs_le⟩

/-- four `ensure_read` calls, of which only the last one made can fail -/
theorem readPacketS_run (s : Sock) : Cost s (readPacketS s).2 ∧ (readPacketS s).1 ≠ .typeError := by
  unfold readPacketS
  split
  · next he1 => exact ⟨ensureRead_cost he1, nofun⟩
  · next s1 he1 =>
    have f1 := (ensureRead_free he1).1
    dsimp only
    split
    · next he3 => exact ⟨f1.then (ensureRead_cost he3).unbuf, nofun⟩
    · next s3 he3 =>
      have f3 := f1.trans (ensureRead_free he3).1.unbuf
      split
      · exact ⟨f3.cost, nofun⟩
      · next padB rest hb =>
        split
        · exact ⟨f3.cost.buf _, nofun⟩
        · next hchk =>
          split
          · next he5 => exact ⟨f3.then (ensureRead_cost he5).unbuf, nofun⟩
          · next s5 he5 =>
            obtain ⟨g5, hlen⟩ := ensureRead_free he5
            have f5 := f3.trans g5.unbuf
            split
            · next hp =>
              -- the length check passed, so `payLen ≥ 1`, and that many bytes are buffered: the payload is not empty
              have := congrArg List.length hp
              simp only [not_or, Nat.not_lt, List.length_take, List.length_nil] at hchk this
              omega
            · split
              · next he7 => exact ⟨f5.then (ensureRead_cost he7).unbuf, nofun⟩
              · next s7 he7 => exact ⟨(f5.trans (ensureRead_free he7).1.unbuf).cost.buf _, nofun⟩

/-- the packet reader never reaches a `TypeError` from `ord(b'')`: the length check rejects a payload shorter than one byte (D16), so a
    payload of at least one byte is present when the type byte is read (and no negative-length read can occur) -/
theorem readPacket_no_type_error (s : Sock) : (readPacketS s).1 ≠ .typeError :=
  (readPacketS_run s).2

/-- cost of one `read_packet`: at most one stall, at most one `recv` per consumed event plus one -/
theorem readPacket_cost (s : Sock) :
    (readPacketS s).2.stalls ≤ s.stalls + 1 ∧ (readPacketS s).2.recvs ≤ s.recvs + (s.events.length - (readPacketS s).2.events.length) + 1 ∧
      (readPacketS s).2.events.length ≤ s.events.length :=
  have c := (readPacketS_run s).1
  ⟨c.stalls_le, c.recvs_le, c.consumed⟩

/-- **The whole handshake on the first connection: at most two stalls are ever waited for** (one only if the identification
    line arrived with its line ending: an unterminated line is accepted after the peer went quiet, and the packet read
    after it may stall once more), **and the number of `recv` calls is bounded by the number of peer events plus two** — so
    the time spent on a connection is at most two timeouts beyond the peer's own activity, for every finite peer. -/
theorem handshake_cost (s : Sock) :
    (handshakeS s).2.2.stalls ≤ s.stalls + 2 ∧ (handshakeS s).2.2.recvs ≤ s.recvs + s.events.length + 2 := by
  have c1 : Cost s (getBannerS s).2.2.2 := getBannerAux_cost _ _ s
  unfold handshakeS
  split
  · next hg => rw [hg] at c1; exact c1.two (Free.refl _).cost
  · next s1 hg =>
    rw [hg] at c1
    have c2 := (readPacketS_run s1).1
    rcases hp : readPacketS s1 with ⟨r, s2⟩
    rw [hp] at c2
    cases r with
    | packet t body =>
      dsimp only
      split
      · exact c1.two c2
      · split <;> exact c1.two c2
    | _ => exact c1.two c2

/-- **An incomplete handshake never looks clean**: whatever bytes arrive, in whatever segmentation, with whatever stalls —
    if the handshake is not classified `ok`, the audit ends with status 1 and without an algorithm report. -/
theorem malformed_handshake_no_report (s : Sock) (cfg : AuditCfg) (res : AuditResult) (h : (handshakeS s).1 ≠ .ok) :
    (auditEnd cfg (handshakeS s).1 res).status = 1 ∧ (auditEnd cfg (handshakeS s).1 res).algReport = false :=
  C02.incomplete_never_clean cfg _ h res

/-- **A handshake classified `ok` really carried a KEXINIT**: a banner line was found, the first packet was well-framed
    with type 20, and the lists reported are exactly those `kexParse` reads from its payload (C10: for a canonical payload these
    are the lists it was written from) -/
theorem handshake_ok_sound (s : Sock) (k : Wire.Kex) (s' : Sock) (h : handshakeS s = (.ok, some k, s')) :
    ∃ b hd e s1 body, getBannerS s = (some b, hd, e, s1) ∧ readPacketS s1 = (.packet 20 body, s') ∧ Wire.kexParse body = .ok k := by
  revert h
  -- of the seven ways `handshakeS` ends only one is classified `ok`
  fun_cases handshakeS s with
  | case6 b hd e s1 hg t body s2 hp ht k' hk =>
    rintro ⟨⟩
    exact ⟨b, hd, e, s1, body, hg, Decidable.not_not.mp ht ▸ hp, hk⟩
  | _ => nofun

/-- **Probe-phase misbehaviour is contained**: a probe ends in a result or in none.  That every exception a peer-controlled reply provokes
    (`struct.error`, `ValueError`, `UnicodeDecodeError`, `TypeError`, `KeyError`, `KexDHException`, even `sys.exit`) becomes "no result for
    this probe" is `probe_exception_is_none`. -/
theorem probe_misbehaviour_contained {α : Type} (r : Except Exn α) : (catchProbe r).isSome = true ∨ catchProbe r = none := by
  cases r <;> simp [catchProbe]

theorem probe_exception_is_none {α : Type} (e : Exn) : catchProbe (.error e : Except Exn α) = none := rfl

-- non-vacuity: a concrete well-formed stream is classified ok; truncations are not
def goodStream : List RecvEvent :=
  [.data ([83,83,72,45,50,46,48,45,120,13,10]), .data ([0,0,0,84, 11, 20] ++ List.replicate 16 7 ++ (List.replicate 10 [0,0,0,1,97]).flatten ++ [0, 0,0,0,0] ++ List.replicate 11 0)]
example : (handshakeS { events := goodStream }).1 = .ok := by decide +kernel
example : (handshakeS { events := goodStream.take 1 }).1 = .readError := by decide +kernel
example : (handshakeS { events := [.data ([83,83,72,45,50,46,48,45,120,13,10]), .timeout, .data [1,2,3]] }).2.2.stalls = 1 := by decide +kernel
example : (handshakeS { events := [.data ([104,101,108,108,111,13,10]), .error] }).1 = .noBanner := by decide +kernel
example : (handshakeS { events := [.data ([83,83,72,45,50,46,48,45,120,13,10]), .data [0,0,0,4,255,20,1,2,3]] }).1 = .badFraming := by decide +kernel

open SshAudit.Wire in
/-- reading a name-list from a truncated buffer either fails or leaves a strictly truncated rest -/
theorem readList_prefix (names : List Bytes) (a R0 : Bytes) (e : writeList names = .ok a) (hR : R0 ≠ []) (m : Nat) (hm : m < (a ++ R0).length) :
    readList ((a ++ R0).take m) = .error .struct ∨ ∃ v m', readList ((a ++ R0).take m) = .ok (v, R0.take m') ∧ m' < R0.length := by
  obtain ⟨hd, hw, rfl⟩ := writeString_ok e
  have hd4 := writeInt_length hw
  have hRpos : 0 < R0.length := List.length_pos_iff.mpr hR
  by_cases h4 : m < 4
  · left
    have : ((hd ++ joinComma names ++ R0).take m).length < 4 := by rw [List.length_take]; omega
    rw [readList, readString, readInt, if_pos this]
    rfl
  · right
    have hsplit : (hd ++ joinComma names ++ R0).take m = hd ++ (joinComma names ++ R0).take (m - 4) := by
      rw [List.append_assoc, List.take_append, hd4, List.take_of_length_le (by omega)]
    rw [hsplit, readList, readString, C10.u32_rt _ hd _ hw]
    refine ⟨splitComma (((joinComma names ++ R0).take (m - 4)).take (joinComma names).length), m - 4 - (joinComma names).length, ?_, ?_⟩
    · simp only [ok_bind, pure_eq_ok]
      rw [List.drop_take, List.drop_left]
    · simp only [List.length_append, hd4] at hm; omega

section
open SshAudit.Wire

/-- `k` rejects every strict truncation of the (non-empty) data `R` it is meant to read.  `R ≠ []` is what `RejectsCut.readList` needs of the data after
    a name-list: `read_string` clamps, so a list cut inside its body is read, and it is the next field, found missing, that is refused.  A ladder
    therefore ends with a fixed-width field: `RejectsCut.readInt`, or `RejectsCut.readBool` with nothing after the flag. -/
def RejectsCut (k : Bytes → Except Exn β) (R : Bytes) : Prop := R ≠ [] ∧ ∀ m, m < R.length → k (R.take m) = .error .struct

theorem RejectsCut.readList {k : List Bytes × Bytes → Except Exn β} {names : List Bytes} {a R : Bytes} (e : writeList names = .ok a)
    (hk : ∀ v, RejectsCut (fun r => k (v, r)) R) : RejectsCut (fun r => readList r >>= k) (a ++ R) := by
  have hR := (hk []).1
  refine ⟨fun h => hR (List.append_eq_nil_iff.mp h).2, fun m hm => ?_⟩
  rcases readList_prefix names a R e hR m hm with h | ⟨v, m', h, hm'⟩
  · simp only [h]; rfl
  · simp only [h]; exact (hk v).2 m' hm'

/-- `R`, what follows the flag, may be empty -/
theorem RejectsCut.readBool {k : Bool × Bytes → Except Exn β} (f : Bool) {R : Bytes} (hk : ∀ v m, m < R.length → k (v, R.take m) = .error .struct) :
    RejectsCut (fun r => readBool r >>= k) (writeBool f ++ R) := by
  refine ⟨by simp [writeBool], fun m hm => ?_⟩
  cases m with
  | zero => rfl
  | succ q =>
    -- the flag is read; what is left is a strict truncation of `R`
    simp only [writeBool, List.length_append, List.length_cons, List.length_nil] at hm
    exact hk _ q (by omega)

/-- fewer than four bytes are left for `read_int` -/
theorem RejectsCut.readInt {k : Nat × Bytes → Except Exn β} {u : Bytes} (hu : u.length = 4) : RejectsCut (fun r => readInt r >>= k) u := by
  refine ⟨fun h => (by rw [h] at hu; cases hu), fun m hm => ?_⟩
  have hq : (u.take m).length < 4 := by rw [List.length_take]; omega
  show (Wire.readInt (u.take m) >>= _) = _
  rw [Wire.readInt, if_pos hq]
  rfl

/-- a strict truncation of `c ++ R`, read past `c`, is a strict truncation of `R` (or nothing, and `R` is not empty) -/
theorem RejectsCut.after {k : Bytes → Except Exn β} {R c : Bytes} {n m : Nat} (h : RejectsCut k R) (hc : c.length = n) (hm : m < (c ++ R).length) :
    k (((c ++ R).take m).drop n) = .error .struct := by
  rw [List.length_append, hc] at hm
  rw [Text.drop_take_append hc]
  exact h.2 _ (by have := List.length_pos_iff.mpr h.1; omega)

end

open SshAudit.Wire in
/-- **Every proper prefix of a well-formed KEXINIT message is rejected** (with `struct.error`, which `audit()` turns into
    status 1 without a report): a peer cannot get a truncated algorithm list reported as its configuration. -/
theorem kexinit_prefix_rejected (k : Kex) (bs : Bytes) (hc : k.cookie.length = 16) (h : kexWrite k = .ok bs) (m : Nat) (hm : m < bs.length) :
    kexParse (bs.take m) = .error .struct := by
  simp only [kexWrite, bind_eq_ok, pure_eq_ok, Except.ok.injEq] at h
  obtain ⟨a, e1, b, e2, c, e3, d, e4, e, e5, f, e6, g, e7, hh, e8, i, e9, j, e10, u, e11, rfl⟩ := h
  simp only [List.append_assoc] at hm ⊢
  rw [kexParse, Wire.read]
  refine (RejectsCut.readList e1 fun _ => ?_).after hc hm
  refine .readList e2 fun _ => ?_
  refine .readList e3 fun _ => ?_
  refine .readList e4 fun _ => ?_
  refine .readList e5 fun _ => ?_
  refine .readList e6 fun _ => ?_
  refine .readList e7 fun _ => ?_
  refine .readList e8 fun _ => ?_
  refine .readList e9 fun _ => ?_
  refine .readList e10 fun _ => ?_
  exact .readBool _ fun _ => (RejectsCut.readInt (writeInt_length e11)).2

-- non-vacuity: a real message, cut one byte short
def sampleKex : Wire.Kex := ⟨List.replicate 16 7, [[0x61]], [[0x62]], [[0x63]], [[0x63]], [[0x64]], [[0x64]], [[0x65]], [[0x65]], [[]], [[]], false, 0⟩
example : (Wire.kexWrite sampleKex).toOption.map (fun bs => (bs.length, Wire.kexParse (bs.take (bs.length - 1)))) = some (69, .error .struct) := by decide +kernel

namespace Strict
open SshAudit.Wire

/-- `read_string` as a strict reader would do it: the body must be there in full -/
def readString (bs : Bytes) : Except Exn (Bytes × Bytes) := do
  let (n, r) ← readInt bs
  if r.length < n then .error .struct else pure (r.take n, r.drop n)

def readList (bs : Bytes) : Except Exn (List Bytes × Bytes) := do
  let (s, r) ← Strict.readString bs
  pure (splitComma s, r)

/-- KEXINIT read strictly: a 16-byte cookie, ten name-lists each of which fits, the flag, the reserved word -/
def kexParse (bs : Bytes) : Except Exn Kex := do
  if bs.length < 16 then .error .struct
  let (cookie, r) := Wire.read 16 bs
  let (kex, r) ← Strict.readList r
  let (key, r) ← Strict.readList r
  let (encC, r) ← Strict.readList r
  let (encS, r) ← Strict.readList r
  let (macC, r) ← Strict.readList r
  let (macS, r) ← Strict.readList r
  let (compC, r) ← Strict.readList r
  let (compS, r) ← Strict.readList r
  let (langC, r) ← Strict.readList r
  let (langS, r) ← Strict.readList r
  let (follows, r) ← readBool r
  let (unused, _) ← readInt r
  pure { cookie, kex, key, encC, encS, macC, macS, compC, compS, langC, langS, follows, unused }

end Strict

open SshAudit.Wire in
/-- a lenient name-list read that leaves something behind did not overrun: the strict read gives the same -/
theorem readList_strict (r r' : Bytes) (v : List Bytes) (h : readList r = .ok (v, r')) (hne : r' ≠ []) : Strict.readList r = .ok (v, r') := by
  simp only [readList, readString, bind_eq_ok, pure_eq_ok, Except.ok.injEq, Prod.mk.injEq] at h
  obtain ⟨_, ⟨⟨n, r1⟩, hi, rfl⟩, rfl, rfl⟩ := h
  have : ¬ r1.length < n := fun hlt => hne (List.drop_eq_nil_iff.mpr (Nat.le_of_lt hlt))
  simp only [Strict.readList, Strict.readString, hi, ok_bind, this, if_false, pure_eq_ok]

section
open SshAudit.Wire

/-- the lenient continuation `k` succeeds only on data that is not exhausted, and then the strict one `k'` agrees -/
def Complete (k k' : Bytes → Except Exn β) : Prop := ∀ r x, k r = .ok x → r ≠ [] ∧ k' r = .ok x

theorem Complete.readList {k k' : List Bytes × Bytes → Except Exn β} (hk : ∀ v, Complete (fun r => k (v, r)) (fun r => k' (v, r))) :
    Complete (fun r => readList r >>= k) (fun r => Strict.readList r >>= k') := by
  intro r x h
  obtain ⟨⟨v, r'⟩, e, h'⟩ := bind_eq_ok.mp h
  obtain ⟨hne, h''⟩ := hk v r' x h'
  refine ⟨readList_ok_ne r _ e, ?_⟩
  simp only [readList_strict r r' v e hne]
  exact h''

theorem Complete.imp {k k' : Bytes → Except Exn β} (hC : Complete k k') : ∀ x r, k r = .ok x → k' r = .ok x := fun x r h => (hC r x h).2

theorem Complete.readBool (k : Bool × Bytes → Except Exn β) : Complete (fun r => readBool r >>= k) (fun r => readBool r >>= k) := by
  intro r x h
  obtain ⟨y, e, _⟩ := bind_eq_ok.mp h
  exact ⟨readBool_ok_ne r y e, h⟩

end

open SshAudit.Wire in
/-- **Whatever the lenient KEXINIT reader accepts, a strict reader accepts with the same result**: although `read(n)` clamps,
    a payload in which the cookie or any name-list overruns the data is rejected (the next fixed-size field is missing), so a
    peer cannot get an incomplete key-exchange-init reported. -/
theorem kexParse_accepts_only_complete (bs : Bytes) (k : Kex) (h : kexParse bs = .ok k) : Strict.kexParse bs = .ok k := by
  rw [kexParse, Wire.read] at h
  have hlen : ¬ bs.length < 16 := by
    obtain ⟨y, e, _⟩ := bind_eq_ok.mp h
    exact fun hl => readList_ok_ne _ y e (List.drop_eq_nil_iff.mpr (by omega))
  rw [Strict.kexParse, if_neg hlen, Wire.read]
  generalize bs.drop 16 = r0 at h ⊢
  revert k r0 h
  refine Complete.imp ?_
  refine .readList fun _ => ?_
  refine .readList fun _ => ?_
  refine .readList fun _ => ?_
  refine .readList fun _ => ?_
  refine .readList fun _ => ?_
  refine .readList fun _ => ?_
  refine .readList fun _ => ?_
  refine .readList fun _ => ?_
  refine .readList fun _ => ?_
  refine .readList fun _ => ?_
  exact .readBool _

-- non-vacuity: the lenient reader accepts the sample message
example : (Wire.kexWrite sampleKex).toOption.map (fun bs => (Wire.kexParse bs).toOption.isSome) = some true := by decide +kernel

end SshAudit.C09
