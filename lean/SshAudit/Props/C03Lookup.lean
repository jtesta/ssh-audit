/-
  C03 extension — the `--lookup` view (`algorithm_lookup`, and how `main()` reaches it).  A line of `--lookup` is the audit's own `algTexts` of a
  requested name, under each category that covers it (`Lookup.covers`); the properties are read off that.
  Every theorem is for every rating database, request, output option set and iteration order `o` of the Python sets (`o.ok`: a permutation);
  the `gen_` theorems and the examples are for the regenerated database, and where they evaluate a section, for `dbOrder`.
-/
import SshAudit.Lemmas.Lookup
import SshAudit.Props.C03
import SshAudit.Lemmas.GenDB
namespace SshAudit.C03Lookup
open SshAudit.Report SshAudit.Lookup
open Output (Cfg Op Item Sec Meth Buf)

/-- the four categories `--lookup` prints, in its order -/
def fourCats : List Str := [kexC, keyC, macC, encC]

theorem mem_fourCats {c : Str} : c ∈ fourCats ↔ ∃ t, (c, t) ∈ algTypes := by
  simp only [show fourCats = algTypes.map (·.1) from rfl, List.mem_map, Prod.exists, exists_and_right, exists_eq_right]

/-- the database knows the name: it is a key of one of its categories, or a `gss-<method>-<suffix>` name whose `gss-<method>-*` form is a key
    exchange key (`Lookup.covers`: the audit's own rule) -/
def known (db : DB) (n : Str) : Prop := ∃ c, covers db c n

/-- the notes of every printed line, in print order: what the return value is folded over -/
def printedNotes (o : SetOrder) (db : DB) (names : List Str) : List Note :=
  (sections o db names).flatMap (fun sc => sc.lines.flatMap (·.notes))

/-- one section per category whose set is not empty, in the order of `alg_types`: none merged, dropped, invented or repeated -/
theorem sections_categories (o : SetOrder) (db : DB) (names : List Str) :
    (sections o db names).map (·.cat) = fourCats.filter (fun c => !(found db names c).isEmpty) := by
  rw [sections_eq, List.map_map, show fourCats = algTypes.map (·.1) from rfl, List.filter_map]
  rfl

theorem section_content (o : SetOrder) (db : DB) (names : List Str) (sc : Section) (h : sc ∈ sections o db names) :
    ∃ t, (sc.cat, t) ∈ algTypes ∧ sc.title = s "# " ++ t ∧ sc.lines = sectionLines o db names sc.cat ∧ found db names sc.cat ≠ [] :=
  (mem_sections o db names sc).mp h

/-- which names get a line under a category: the requested items (verbatim) that the category covers, blank ones excepted -/
theorem printed_iff (o : SetOrder) (ho : o.ok) (db : DB) (names : List Str) (c n : Str) :
    (∃ l ∈ sectionLines o db names c, l.name = n) ↔ n ∈ names ∧ covers db c n ∧ printed c n = true := by
  refine List.mem_map.symm.trans ?_
  rw [sectionLines, algLines_names, List.mem_filter, (ho c _).mem_iff, mem_found, and_assoc]

theorem section_line_iff (o : SetOrder) (ho : o.ok) (db : DB) (names : List Str) (c : Str) (P : AlgLine → Prop) :
    (∃ sc ∈ sections o db names, sc.cat = c ∧ ∃ l ∈ sc.lines, P l) ↔ c ∈ fourCats ∧ ∃ l ∈ sectionLines o db names c, P l := by
  constructor
  · rintro ⟨sc, hsc, rfl, l, hl, hP⟩
    obtain ⟨t, ht, _, hlines, _⟩ := (mem_sections o db names sc).mp hsc
    exact ⟨mem_fourCats.mpr ⟨t, ht⟩, l, hlines ▸ hl, hP⟩
  · rintro ⟨hc, l, hl, hP⟩
    obtain ⟨t, ht⟩ := mem_fourCats.mp hc
    obtain ⟨h1, h2, _⟩ := (mem_sectionLines o ho db names c l).mp hl
    exact ⟨{ cat := c, title := s "# " ++ t, lines := sectionLines o db names c },
      (mem_sections o db names _).mpr ⟨t, ht, rfl, rfl, List.ne_nil_of_mem ((mem_found db names c _).mpr ⟨h1, h2⟩)⟩, rfl, l, hl, hP⟩

/-- a name that is a key of two categories (`none`, `aes128-gcm`, …) has a line in both sections -/
theorem in_every_category (o : SetOrder) (ho : o.ok) (db : DB) (names : List Str) (c n : Str)
    (hc : c ∈ fourCats) (hn : n ∈ names) (hk : covers db c n) (hp : printed c n = true) :
    ∃ sc ∈ sections o db names, sc.cat = c ∧ ∃ l ∈ sc.lines, l.name = n ∧ l.cat = c := by
  obtain ⟨l, hl, hln⟩ := (printed_iff o ho db names c n).mpr ⟨hn, hk, hp⟩
  exact (section_line_iff o ho db names c _).mpr ⟨hc, l, hl, hln, cat_of_mem_plain hl⟩

/-- however often a name is requested, it is printed once per category (the database keys being distinct, as in a Python dict) -/
theorem printed_once (o : SetOrder) (ho : o.ok) (db : DB) (names : List Str) (c : Str) (hd : (DBm.keys db c).Nodup) :
    ((sectionLines o db names c).map (·.name)).Nodup := by
  unfold sectionLines
  rw [algLines_names]
  exact (((ho c _).nodup_iff).mpr (nodup_found db names c hd)).sublist List.filter_sublist

theorem line_shape (o : SetOrder) (db : DB) (names : List Str) (c : Str) (l : AlgLine) (h : l ∈ sectionLines o db names c) :
    l.cat = c ∧ l.shown = l.name :=
  ⟨cat_of_mem_plain h, shown_of_mem_plain h⟩

theorem notes_are_algTexts (o : SetOrder) (db : DB) (names : List Str) (c : Str) (l : AlgLine) (h : l ∈ sectionLines o db names c) :
    algTexts db c l.name = some (l.notes, l.unknown) :=
  texts_of_mem_plain h

/-- lookup = audit: wherever the same name is advertised in an audit (any position, any neighbours, any measured sizes), the audit's line
    has the notes and levels of the lookup line; only the shown name may carry a size -/
theorem notes_eq_audit (o : SetOrder) (db : DB) (names : List Str) (c : Str) (l : AlgLine) (h : l ∈ sectionLines o db names c)
    (rf : List Str) (xs ys : List Str) (hk : List (Str × HostKeyInfo)) (dh : List (Str × Nat)) :
    algLines rf db c (xs ++ l.name :: ys) hk dh =
      algLines rf db c xs hk dh ++ [{ l with shown := shownName rf c l.name hk dh }] ++ algLines rf db c ys hk dh := by
  rw [algLines_append, algLines_cons, algLines_single, texts_of_mem_plain h, List.append_assoc]
  exact congrArg (fun x => _ ++ ([x] ++ _)) (AlgLine.ext (cat_of_mem_plain h).symm rfl rfl rfl rfl)

theorem notes_eq_audit_unmeasured (o : SetOrder) (db : DB) (names : List Str) (c : Str) (l : AlgLine) (h : l ∈ sectionLines o db names c)
    (rf : List Str) (xs ys : List Str) :
    algLines rf db c (xs ++ l.name :: ys) [] [] = algLines rf db c xs [] [] ++ [l] ++ algLines rf db c ys [] [] := by
  rw [notes_eq_audit o db names c l h, shownName_nil]
  exact congrArg (fun x => _ ++ [x] ++ _) (AlgLine.ext rfl rfl (shown_of_mem_plain h).symm rfl rfl)

theorem notes_request_free (o₁ o₂ : SetOrder) (db : DB) (names₁ names₂ : List Str) (c : Str) (l₁ l₂ : AlgLine)
    (h₁ : l₁ ∈ sectionLines o₁ db names₁ c) (h₂ : l₂ ∈ sectionLines o₂ db names₂ c) (hn : l₁.name = l₂.name) : l₁ = l₂ := by
  obtain ⟨ht, hu⟩ := algTexts_line_unique (texts_of_mem_plain h₁) (texts_of_mem_plain h₂) hn
  exact AlgLine.ext ((cat_of_mem_plain h₁).trans (cat_of_mem_plain h₂).symm) hn
    ((shown_of_mem_plain h₁).trans (hn.trans (shown_of_mem_plain h₂).symm)) ht hu

/-- a lookup line shows the texts of the entry the audit rates the name from (its own, or the wildcard entry of a gss name);
    `hg` excludes a literal key that the kex gss rewriting maps away from the keys (a `gss-…` key not in wildcard form) -/
theorem known_in_audit (o : SetOrder) (ho : o.ok) (db : DB) (names : List Str) (c : Str) (l : AlgLine) (h : l ∈ sectionLines o db names c)
    (hg : gssNormalize c l.name = l.name ∨ l.name ∉ DBm.keys db c) :
    l.unknown = false ∧ ∃ e, DBm.lookup db c (gssNormalize c l.name) = some e ∧ l.notes = entryTexts e := by
  obtain ⟨_, hk, _, _, ht⟩ := (mem_sectionLines o ho db names c l).mp h
  obtain ⟨e, he⟩ := (DBm.mem_keys_iff db c _).mp (normal_key_of_covers db c l.name hk hg)
  have hp := printed_of_algTexts ht
  rw [C03.known_not_unknown db c l.name e hp he] at ht
  obtain ⟨h1, h2⟩ := Prod.mk.inj (Option.some.inj ht)
  exact ⟨h2.symm, e, he, h1.symm⟩

theorem unknown_line_only_gss (o : SetOrder) (ho : o.ok) (db : DB) (names : List Str) (c : Str) (l : AlgLine) (h : l ∈ sectionLines o db names c)
    (hu : l.unknown = true) : l.name ∈ DBm.keys db c ∧ gssNormalize c l.name ≠ l.name := by
  have key : ¬ (gssNormalize c l.name = l.name ∨ l.name ∉ DBm.keys db c) := fun hg => by
    rw [(known_in_audit o ho db names c l h hg).1] at hu
    cases hu
  exact ⟨Decidable.byContradiction fun hn => key (Or.inr hn), fun hg => key (Or.inl hg)⟩

theorem audit_known_covers (db : DB) (c n : Str) (ts : List Note) (h : algTexts db c n = some (ts, false)) : covers db c n ∧ printed c n = true := by
  obtain ⟨hp, e, hl, _⟩ := (algTexts_known_iff db c n ts).mp h
  exact ⟨covers_of_normal_key db c n ((DBm.mem_keys_iff db c _).mpr ⟨e, hl⟩), hp⟩

/-- known to the audit ⇔ known to `--lookup`, with the same notes: the audit rates a requested name from a database entry of one of the four
    categories iff `--lookup` prints a line that is not "unknown" for it in that category's section -/
theorem audit_known_iff_lookup_known (o : SetOrder) (ho : o.ok) (db : DB) (names : List Str) (c n : Str) (ts : List Note) (hc : c ∈ fourCats) (hn : n ∈ names) :
    algTexts db c n = some (ts, false) ↔
      ∃ sc ∈ sections o db names, sc.cat = c ∧ ∃ l ∈ sc.lines, l.name = n ∧ l.notes = ts ∧ l.unknown = false := by
  rw [section_line_iff o ho]
  constructor
  · intro h
    obtain ⟨hcov, _⟩ := audit_known_covers db c n ts h
    exact ⟨hc, _, (mem_sectionLines o ho db names c ⟨c, n, n, ts, false⟩).mpr ⟨hn, hcov, rfl, rfl, h⟩, rfl, rfl, rfl⟩
  · rintro ⟨_, l, hl, rfl, rfl, hu⟩
    rw [← hu]
    exact notes_are_algTexts o db names c l hl

/-- a gss instance is shown with the notes of its wildcard entry, for every method and every suffix without `-` (any length; the base64 `/`, `+`, `=` allowed) -/
theorem gss_instance_line (o : SetOrder) (db : DB) (names : List Str) (p sfx : Str) (hs : '-' ∉ sfx) (l : AlgLine)
    (h : l ∈ sectionLines o db names kexC) (hn : l.name = s "gss-" ++ p ++ '-' :: sfx) :
    algTexts db kexC (s "gss-" ++ p ++ s "-*") = some (l.notes, l.unknown) := by
  rw [← C03.gss_wildcard db p sfx hs, ← hn]
  exact notes_are_algTexts o db names kexC l h

theorem not_found_iff (db : DB) (names : List Str) (n : Str) : n ∈ notFound db names ↔ n ∈ names ∧ ¬ known db n := by
  simp only [notFound, List.mem_filter, Bool.not_eq_true', Text.contains_false_iff, mem_flattened, known]
  exact ⟨fun ⟨h1, h2⟩ => ⟨h1, fun hk => h2 ⟨h1, hk⟩⟩, fun ⟨h1, h2⟩ => ⟨h1, fun hk => h2 hk.2⟩⟩

/-- the names not found come in the order of the request, repeats included -/
theorem not_found_list (db : DB) (names : List Str) :
    notFound db names = names.filter (fun n => !((cats db).any (fun c => (DBm.keys db c).contains n) || gssKnown db n)) := by
  unfold notFound
  apply List.filter_congr
  intro n hn
  congr 1
  rw [Bool.eq_iff_iff]
  simp only [List.contains_iff_mem, mem_flattened, covers, hn, true_and, exists_or, exists_eq_left, List.any_eq_true, Bool.or_eq_true]
  exact or_congr_left (exists_congr fun c => ⟨fun h => ⟨mem_cats_of_mem_keys db c n h, h⟩, And.right⟩)

theorem unknown_never_printed (o : SetOrder) (ho : o.ok) (db : DB) (names : List Str) (n : Str) (hu : ¬ known db n)
    (c : Str) (l : AlgLine) (hl : l ∈ sectionLines o db names c) : l.name ≠ n := by
  rintro rfl
  obtain ⟨_, hk, _⟩ := (mem_sectionLines o ho db names c l).mp hl
  exact hu ⟨c, hk⟩

theorem known_never_listed (db : DB) (names : List Str) (n : Str) (hk : known db n) : n ∉ notFound db names :=
  fun h => ((not_found_iff db names n).mp h).2 hk

theorem requested_accounted (o : SetOrder) (ho : o.ok) (db : DB) (names : List Str) (n : Str) (hn : n ∈ names)
    (h4 : ∀ c ∈ cats db, c ∈ fourCats) (hb : ∀ c, printed c n = true) :
    n ∈ notFound db names ∨ ∃ sc ∈ sections o db names, ∃ l ∈ sc.lines, l.name = n := by
  by_cases hk : known db n
  · right
    obtain ⟨c, hkc⟩ := hk
    obtain ⟨sc, hsc, _, l, hl, hln, _⟩ := in_every_category o ho db names c n (h4 c (mem_cats_of_covers db c n hkc)) hn hkc (hb c)
    exact ⟨sc, hsc, l, hl, hln⟩
  · left; exact (not_found_iff db names n).mpr ⟨hn, hk⟩

/-- whatever name the audit rates from a database entry, `--lookup` finds -/
def AuditKnownIsFound (db : DB) : Prop := ∀ c n ts names, algTexts db c n = some (ts, false) → n ∉ notFound db names

/-- for every database: a name the audit rates from a database entry — a `gss-<method>-<base64>` instance included — is never listed as not found (D38) -/
theorem audit_known_is_found (db : DB) : AuditKnownIsFound db :=
  fun c n ts names h => known_never_listed db names n ⟨c, (audit_known_covers db c n ts h).1⟩

/-- the converse of `audit_known_is_found` needs keys that are their own normal form and not blank, as the regenerated ones are
    (`gen_keys_normal`, `gen_no_blank_keys`) -/
theorem audit_known_iff_found (db : DB) (hN : ∀ c k, k ∈ DBm.keys db c → gssNormalize c k = k) (hB : ∀ c k, k ∈ DBm.keys db c → printed c k = true)
    (names : List Str) (n : Str) (hn : n ∈ names) :
    n ∉ notFound db names ↔ ∃ c ts, algTexts db c n = some (ts, false) := by
  constructor
  · intro hnf
    obtain ⟨c, hcov⟩ : known db n := Classical.byContradiction fun h => hnf ((not_found_iff db names n).mpr ⟨hn, h⟩)
    have hkey : gssNormalize c n ∈ DBm.keys db c :=
      normal_key_of_covers db c n hcov (if h : n ∈ DBm.keys db c then Or.inl (hN c n h) else Or.inr h)
    obtain ⟨e, he⟩ := (DBm.mem_keys_iff db c _).mp hkey
    have hp : printed c n = true := printed_gssNormalize c n ▸ hB c _ hkey
    exact ⟨c, entryTexts e, C03.known_not_unknown db c n e hp he⟩
  · rintro ⟨c, ts, h⟩
    exact audit_known_is_found db c n ts names h

theorem similar_iff (db : DB) (names : List Str) (g : Suggestion) :
    g ∈ similar db names ↔ g.unknown ∈ notFound db names ∧ g.cat ∈ cats db ∧ g.name ∈ DBm.keys db g.cat ∧ similarTo g.unknown g.name = true := by
  unfold similar
  simp only [List.mem_flatMap, List.mem_map, List.mem_filter]
  constructor
  · rintro ⟨u, hu, c, hc, k, ⟨hk, hs⟩, rfl⟩
    exact ⟨hu, hc, hk, hs⟩
  · rintro ⟨hu, hc, hk, hs⟩
    exact ⟨g.unknown, hu, g.cat, hc, g.name, ⟨hk, hs⟩, rfl⟩

theorem similar_rule (u k : Str) : similarTo u k = true ↔ ∃ p q, Text.lower k = p ++ Text.lower u ++ q := by
  unfold similarTo casefold
  rw [Text.hasSub_iff_infix]
  exact ⟨fun ⟨p, q, h⟩ => ⟨p, q, h.symm⟩, fun ⟨p, q, h⟩ => ⟨p, q, h.symm⟩⟩

theorem similar_only_unknown (db : DB) (names : List Str) (g : Suggestion) (h : g ∈ similar db names) :
    g.unknown ∈ names ∧ ¬ known db g.unknown ∧ known db g.name := by
  obtain ⟨h1, h2, h3, _⟩ := (similar_iff db names g).mp h
  obtain ⟨a, b⟩ := (not_found_iff db names g.unknown).mp h1
  exact ⟨a, b, g.cat, Or.inl h3⟩

theorem similar_text (cfg : Cfg) (o : SetOrder) (db : DB) (names : List Str) (g : Suggestion) (h : g ∈ similar db names) :
    Op.print .warn (g.unknown ++ s " --> (" ++ g.cat ++ s ") " ++ g.name) true false ∈ ops cfg o db names := by
  have hblock : Op.print .warn (g.unknown ++ s " --> (" ++ g.cat ++ s ") " ++ g.name) true false ∈
      trailing similarTitle ((similar db names).map warnItem) := op_mem_trailing (it := warnItem g) (List.mem_map_of_mem h)
  simp only [ops_eq, List.mem_append, hblock, or_true]

theorem similar_implies_not_found (db : DB) (names : List Str) (h : similar db names ≠ []) : notFound db names ≠ [] := by
  intro h0
  apply h
  unfold similar
  rw [h0]; rfl

theorem status_is_fold (o : SetOrder) (db : DB) (names : List Str) :
    status o db names = if notFound db names ≠ [] then 3 else foldStatus 0 (printedNotes o db names) := by
  rw [status, statusOfSections_eq, printedNotes]
  by_cases hn : notFound db names = []
  · have hs : similar db names = [] := by rw [similar, hn]; rfl
    simp [hn, hs]
  · have hl : (notFound db names).length > 0 := List.length_pos_iff.mpr hn
    simp only [hl, if_true, hn, ne_eq, not_false_eq_true]
    split <;> rfl

theorem status_values (o : SetOrder) (db : DB) (names : List Str) : status o db names = 0 ∨ status o db names = 2 ∨ status o db names = 3 := by
  rw [status_is_fold]
  split
  · right; right; rfl
  · exact Report.foldStatus_range _

theorem status_three_iff (o : SetOrder) (db : DB) (names : List Str) :
    status o db names = 3 ↔ notFound db names ≠ [] ∨ ∃ nt ∈ printedNotes o db names, nt.level = .fail := by
  rw [status_is_fold]
  split
  · next h => simp [h]
  · next h =>
    obtain ⟨h3, _, _⟩ := Report.foldStatus_iff (printedNotes o db names)
    rw [h3]; simp [h]

theorem status_two_iff (o : SetOrder) (db : DB) (names : List Str) :
    status o db names = 2 ↔ notFound db names = [] ∧ (∀ nt ∈ printedNotes o db names, nt.level ≠ .fail) ∧ ∃ nt ∈ printedNotes o db names, nt.level = .warn := by
  rw [status_is_fold]
  split
  · next h => simp [h]
  · next h =>
    have h' : notFound db names = [] := by simpa using h
    obtain ⟨_, h2, _⟩ := Report.foldStatus_iff (printedNotes o db names)
    rw [h2]; simp [h']

theorem status_zero_iff (o : SetOrder) (db : DB) (names : List Str) :
    status o db names = 0 ↔ notFound db names = [] ∧ ∀ nt ∈ printedNotes o db names, nt.level = .info := by
  rw [status_is_fold]
  split
  · next h => simp [h]
  · next h =>
    have h' : notFound db names = [] := by simpa using h
    obtain ⟨_, _, h0⟩ := Report.foldStatus_iff (printedNotes o db names)
    rw [h0]; simp [h']

theorem status_unknown (o : SetOrder) (db : DB) (names : List Str) (n : Str) (hn : n ∈ names) (hu : ¬ known db n) : status o db names = 3 :=
  (status_three_iff o db names).mpr (Or.inl (List.ne_nil_of_mem ((not_found_iff db names n).mpr ⟨hn, hu⟩)))

/-- an unknown name is never presented as good: it is printed with `out.fail` and the return value is FAILURE -/
theorem unknown_flagged_fail (cfg : Cfg) (o : SetOrder) (db : DB) (names : List Str) (n : Str) (h : n ∈ notFound db names) :
    Op.print .fail n true false ∈ ops cfg o db names ∧ status o db names = 3 := by
  have hblock : Op.print .fail n true false ∈ trailing unknownTitle ((notFound db names).map failItem) :=
    op_mem_trailing (it := failItem n) (List.mem_map_of_mem h)
  refine ⟨?_, (status_three_iff o db names).mpr (.inl (List.ne_nil_of_mem h))⟩
  simp only [ops_eq, List.mem_append, hblock, or_true, true_or]

theorem mem_printedNotes (o : SetOrder) (ho : o.ok) (db : DB) (names : List Str) (nt : Note) :
    nt ∈ printedNotes o db names ↔ ∃ c ∈ fourCats, ∃ l ∈ sectionLines o db names c, nt ∈ l.notes := by
  simp only [printedNotes, List.mem_flatMap, ← section_line_iff o ho]
  exact ⟨fun ⟨sc, hsc, h⟩ => ⟨sc.cat, sc, hsc, rfl, h⟩, fun ⟨_, sc, hsc, _, h⟩ => ⟨sc, hsc, h⟩⟩

theorem status_order_free (o₁ o₂ : SetOrder) (h₁ : o₁.ok) (h₂ : o₂.ok) (db : DB) (names : List Str) : status o₁ db names = status o₂ db names := by
  rw [status_is_fold, status_is_fold]
  refine congrArg _ (foldStatus_congr_mem 0 fun nt => ?_)
  -- which lines a category has is stated without the order (`mem_sectionLines`)
  simp only [mem_printedNotes _ h₁, mem_printedNotes _ h₂, mem_sectionLines _ h₁, mem_sectionLines _ h₂]

/-- the request is split at commas and nothing else: no stripping, no case folding, empty items and repeats kept, order kept -/
theorem requested_join (names : List Str) (hne : names ≠ []) (hc : ∀ n ∈ names, ',' ∉ n) : requested (Text.join [','] names) = names :=
  Text.splitOn_join ',' hne hc

theorem requested_nonempty (arg : Str) : requested arg ≠ [] := Text.splitOn_ne_nil ',' arg

/-- an empty item (`a,,b`, a trailing comma, `--lookup ,`) is looked up like any other name -/
theorem empty_item_unknown (o : SetOrder) (db : DB) (names : List Str) (h : [] ∈ names) (hk : ¬ known db []) :
    [] ∈ notFound db names ∧ status o db names = 3 :=
  ⟨(not_found_iff db names []).mpr ⟨h, hk⟩, status_unknown o db names [] h hk⟩

theorem empty_item_suggests_all (db : DB) (names : List Str) (h : [] ∈ notFound db names) (c k : Str) (hc : c ∈ cats db) (hk : k ∈ DBm.keys db c) :
    { unknown := [], cat := c, name := k } ∈ similar db names :=
  (similar_iff db names _).mpr ⟨h, hc, hk, (Text.hasSub_iff_infix _ _).mpr List.nil_infix⟩

theorem case_variant_unknown_suggested (db : DB) (names : List Str) (u c k : Str) (hu : u ∈ names) (hn : ¬ known db u)
    (hk : k ∈ DBm.keys db c) (hl : Text.lower u = Text.lower k) :
    u ∈ notFound db names ∧ { unknown := u, cat := c, name := k } ∈ similar db names := by
  have h1 := (not_found_iff db names u).mpr ⟨hu, hn⟩
  exact ⟨h1, (similar_iff db names _).mpr ⟨h1, mem_cats_of_mem_keys db c k hk, hk, by rw [similarTo, casefold, casefold, hl]; exact (Text.hasSub_iff_infix _ _).mpr (List.infix_refl _)⟩⟩

theorem repeats_kept (db : DB) (names : List Str) (n : Str) (hu : ¬ known db n) : (notFound db names).count n = names.count n := by
  apply List.count_filter
  rw [Bool.not_eq_true', Text.contains_false_iff, mem_flattened]
  exact fun h => hu h.2

theorem found_depends_on_set (db : DB) (names₁ names₂ : List Str) (h : ∀ n, n ∈ names₁ ↔ n ∈ names₂) (c k : Str) :
    k ∈ found db names₁ c ↔ k ∈ found db names₂ c := by
  rw [mem_found, mem_found, h k]

theorem exec_ops (cfg : Cfg) (o : SetOrder) (db : DB) (names : List Str) (w : List (List Str)) :
    Output.exec (textCfg cfg) (ops cfg o db names) (Output.quiet [] [] false w) = Output.quiet (closed cfg o db names) [] false w := by
  have hsecs := Output.exec_secs (textCfg cfg) rfl ((sections o db names).map (secOf cfg (padding names))) [] w
  rw [List.flatMap_map, List.flatMap_map] at hsecs
  rw [ops_eq, closed, Output.exec_append, Output.exec_append, Output.exec_append, hsecs, exec_trailing, Output.exec_sep, exec_trailing, List.nil_append]
  simp only [List.length_map]
  -- `closed` writes `sepLine cfg` for the separator; `headLine`, `bodyOf` read only fields `textCfg cfg` shares with `cfg`
  rfl

/-- the buffer `algorithm_lookup` leaves (what `out.write()` prints) and the value it returns -/
theorem entries_eq_closed (cfg : Cfg) (o : SetOrder) (db : DB) (arg : Str) (h : hasCats db = true) :
    run cfg o db arg = .ok { entries := closed cfg o db (requested arg), status := status o db (requested arg) } := by
  rw [run, if_pos h, show ({} : Buf) = Output.quiet [] [] false [] from rfl, exec_ops, Output.entries_quiet]

/-- the call ends with a KeyError exactly when the database lacks one of the four categories -/
theorem run_ok_iff (cfg : Cfg) (o : SetOrder) (db : DB) (arg : Str) :
    ((∃ r, run cfg o db arg = .ok r) ↔ hasCats db = true) ∧ (hasCats db = false → run cfg o db arg = .error .key) := by
  unfold run
  cases hasCats db <;> simp

/-- `-j` does not change what `--lookup` prints (`is_json_output=False` is passed literally) -/
theorem json_flag_ignored (cfg : Cfg) (o : SetOrder) (db : DB) (arg : Str) :
    run { cfg with json := true } o db arg = run { cfg with json := false } o db arg := rfl

/-- in the lookup mode stdout is one `print` of the buffer `algorithm_lookup` filled, and the exit status is its return value -/
theorem main_stdout (a : MainArgs) (o : SetOrder) (db : DB) (arg : Str) (hm : a.manual = false) (hl : a.lookup = some arg) (hne : arg ≠ [])
    (hc : hasCats db = true) :
    main a o db = .lookup [closed (mainCfg a) o db (requested arg)] (status o db (requested arg)) ∧
    run (mainCfg a) o db arg = .ok { entries := closed (mainCfg a) o db (requested arg), status := status o db (requested arg) } := by
  refine ⟨?_, entries_eq_closed (mainCfg a) o db arg hc⟩
  simp only [main, hm, hl, hne, hc, if_true, if_false, Bool.false_eq_true]
  have h := exec_ops (mainCfg a) o db (requested arg) []
  rw [show textCfg (mainCfg a) = mainCfg a from rfl] at h
  rw [show ({} : Buf) = Output.quiet [] [] false [] from rfl, Output.exec_append, h, Output.exec_write_quiet]
  rfl

/-- `main()`: `-m` first; `--lookup` with a non-empty value is the lookup mode; `--lookup ''` is not -/
theorem main_dispatch (a : MainArgs) (o : SetOrder) (db : DB) :
    (a.manual = true → main a o db = .manual) ∧
    (a.manual = false → (a.lookup = none ∨ a.lookup = some []) → main a o db = .other) ∧
    (a.manual = false → ∀ arg, a.lookup = some arg → arg ≠ [] → hasCats db = true →
      ∃ so, main a o db = .lookup so (status o db (requested arg))) := by
  refine ⟨fun h => by simp [main, h], fun h hl => ?_, fun h arg hl hne hc => ⟨_, (main_stdout a o db arg h hl hne hc).1⟩⟩
  rcases hl with hl | hl <;> simp [main, h, hl]

theorem main_ignores_batch_level (a : MainArgs) (b : Bool) (lv : Nat) (o : SetOrder) (db : DB) :
    main { a with batch := b, level := lv } o db = main a o db := rfl

theorem gen_has_cats : hasCats Gen.ssh2db = true ∧ cats Gen.ssh2db = [kexC, keyC, encC, macC] := by decide +kernel

theorem gen_keys_nodup (c : Str) : (DBm.keys Gen.ssh2db c).Nodup := by
  rcases DBm.cat_eq Gen.ssh2db c with e | ⟨ce, hm, _, e⟩
  · rw [DBm.keys, e]; exact List.nodup_nil
  · rw [DBm.keys, e]; exact Gen.ssh2db_names_nodup ce hm

theorem gen_keys_normal (c k : Str) (hk : k ∈ DBm.keys Gen.ssh2db c) : gssNormalize c k = k := by
  rcases gssNormalize_cases c k with hsame | hgss
  · exact hsame
  · -- only a `kex` name that starts with `gss-` is rewritten, and those keys are in wildcard form already: one sweep over the database
    exact DBm.forall_keys (P := fun c k => (c = kexC ∧ Text.startsWith k (s "gss-") = true) → gssNormalize c k = k) (by decide +kernel) c k hk hgss

theorem gen_no_blank_keys (c k : Str) (hk : k ∈ DBm.keys Gen.ssh2db c) : printed c k = true := by
  rw [printed_eq, gen_keys_normal c k hk, DBm.forall_keys (P := fun _ k => k.all Text.isUSpace = false) (by decide +kernel) c k hk]
  rfl

theorem gen_never_unknown_line (o : SetOrder) (ho : o.ok) (names : List Str) (c : Str) (l : AlgLine) (h : l ∈ sectionLines o Gen.ssh2db names c) :
    l.unknown = false := by
  apply (known_in_audit o ho Gen.ssh2db names c l h ?_).1
  by_cases hk : l.name ∈ DBm.keys Gen.ssh2db c
  · exact Or.inl (gen_keys_normal c l.name hk)
  · exact Or.inr hk

theorem gen_multi_category :
    (sections dbOrder Gen.ssh2db (requested (s "none"))).map (fun sc => (sc.cat, sc.lines.map (·.name))) = [(macC, [s "none"]), (encC, [s "none"])] ∧
    notFound Gen.ssh2db (requested (s "none")) = [] := by
  unfold s
  decode_literals
  decide +kernel

theorem gen_not_found_iff_audit_unknown (names : List Str) (n : Str) (hn : n ∈ names) :
    n ∈ notFound Gen.ssh2db names ↔ ∀ c ts, algTexts Gen.ssh2db c n ≠ some (ts, false) := by
  rw [← Classical.not_not (a := n ∈ notFound Gen.ssh2db names), audit_known_iff_found Gen.ssh2db gen_keys_normal gen_no_blank_keys names n hn]
  simp only [not_exists, ne_eq]

def gssInstance : Str := s "gss-group14-sha256-toWM5Slw5Ew8Mqkay+al2g=="

/-- the gss instance of D38: found, rated as its wildcard entry; requested twice and next to the wildcard key, the `kex` set holds it once -/
theorem gen_gss_instance_known :
    notFound Gen.ssh2db (requested gssInstance) = [] ∧ similar Gen.ssh2db (requested gssInstance) = [] ∧
    status dbOrder Gen.ssh2db (requested gssInstance) = 2 ∧
    (sections dbOrder Gen.ssh2db (requested gssInstance)).map (fun sc => (sc.cat, sc.lines.map (fun l => (l.name, l.unknown)))) = [(kexC, [(gssInstance, false)])] ∧
    (sections dbOrder Gen.ssh2db (requested gssInstance)).flatMap (fun sc => sc.lines.map (fun l => some (l.notes, l.unknown))) =
      [algTexts Gen.ssh2db kexC (s "gss-group14-sha256-*")] ∧
    found Gen.ssh2db [gssInstance, s "gss-group14-sha256-*", gssInstance] kexC = [s "gss-group14-sha256-*", gssInstance] := by
  rw [gssInstance]
  unfold s
  decode_literals
  decide +kernel

example : dbOrder.ok := fun _ l => List.Perm.refl l
example : requested (s "a,,B, c,a,") = [s "a", [], s "B", s " c", s "a", []] := by
  unfold s
  decode_literals
  decide +kernel
example : (sections dbOrder Gen.ssh2db (requested (s "ssh-rsa,nosuch"))).map (·.cat) = [keyC] := by
  unfold s
  decode_literals
  decide +kernel
example : notFound Gen.ssh2db (requested (s "ssh-rsa,SSH-RSA, ssh-rsa,nosuch,nosuch")) = [s "SSH-RSA", s " ssh-rsa", s "nosuch", s "nosuch"] := by
  unfold s
  decode_literals
  decide +kernel
example : (similar Gen.ssh2db (requested (s "SSH-RSA"))).map (·.text) =
    [s "SSH-RSA --> (key) ssh-rsa1", s "SSH-RSA --> (key) ssh-rsa", s "SSH-RSA --> (key) ssh-rsa-cert-v00@openssh.com", s "SSH-RSA --> (key) ssh-rsa-cert-v01@openssh.com",
     s "SSH-RSA --> (key) ssh-rsa-sha224@ssh.com", s "SSH-RSA --> (key) ssh-rsa-sha2-256", s "SSH-RSA --> (key) ssh-rsa-sha2-512", s "SSH-RSA --> (key) ssh-rsa-sha256@ssh.com",
     s "SSH-RSA --> (key) ssh-rsa-sha384@ssh.com", s "SSH-RSA --> (key) ssh-rsa-sha512@ssh.com", s "SSH-RSA --> (key) x509v3-ssh-rsa"] := by
  unfold s
  decode_literals
  decide +kernel
example : status dbOrder Gen.ssh2db (requested (s "ssh-ed25519")) = 0 ∧ status dbOrder Gen.ssh2db (requested (s "ssh-rsa")) = 3 ∧
    status dbOrder Gen.ssh2db (requested (s "ssh-ed25519,x")) = 3 := by
  unfold s
  decode_literals
  decide +kernel
example : hasCats [] = false := by decide
example : main { lookup := some (s "x"), manual := true } dbOrder Gen.ssh2db = .manual := by decide +kernel
example : main { lookup := some [] } dbOrder Gen.ssh2db = .other := by decide +kernel

end SshAudit.C03Lookup
