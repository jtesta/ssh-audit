/-
  C10 — Wire encoding and decoding are exact inverses and packets are well-framed.

  Every theorem quantifies over *all* values / byte strings (no bound on size); `rest` is
  arbitrary trailing data.  Model: SshAudit.Model.Wire (tied to readbuf.py, writebuf.py,
  ssh_socket.py, ssh1_crc32.py, ssh2_kex.py, ssh1_publickeymessage.py by correspondence, and by the regenerated
  definitions of `Props/GenLogic5`, `GenLogic6`, `GenLogicCrc`).
-/
import SshAudit.Lemmas.Mpint
import SshAudit.Lemmas.Crc
namespace SshAudit.C10
open SshAudit SshAudit.Wire

theorem byte_rt (v : Nat) (b rest : Bytes) (h : writeByte v = .ok b) : readByte (b ++ rest) = .ok (v, rest) := by
  unfold writeByte at h
  split at h
  · next hv =>
    cases h
    show Except.ok ((UInt8.ofNat v).toNat, rest) = _
    rw [UInt8.toNat_ofNat_of_lt' hv]
  · cases h

theorem byte_overflow (v : Nat) (h : 256 ≤ v) : writeByte v = .error .struct := by
  rw [writeByte, if_neg (by omega)]

theorem bool_rt (v : Bool) (rest : Bytes) : readBool (writeBool v ++ rest) = .ok (v, rest) := by
  cases v <;> rfl

theorem u32_rt (v : Nat) (b rest : Bytes) (h : writeInt v = .ok b) : readInt (b ++ rest) = .ok (v, rest) := by
  obtain ⟨hv, rfl⟩ := writeInt_ok h
  rw [readInt_append (field_length v 4), ofBE_field hv]

/-- the encoder refuses what does not fit 32 bits (`struct.error`) -/
theorem u32_overflow (v : Nat) (h : 2 ^ 32 ≤ v) : writeInt v = .error .struct := by
  rw [writeInt, if_neg (by omega)]

theorem string_rt (s b rest : Bytes) (h : writeString s = .ok b) : readString (b ++ rest) = .ok (s, rest) := by
  obtain ⟨hd, hw, rfl⟩ := writeString_ok h
  rw [readString, List.append_assoc, u32_rt _ hd _ hw]
  simp only [ok_bind, pure_eq_ok, List.take_left, List.drop_left]

/-- name-lists: every non-empty list of comma-free names round-trips (the empty list does not:
    `",".join([]) == ""` reads back as `[""]`, see `namelist_empty`). -/
theorem namelist_rt (names : List Bytes) (b rest : Bytes) (hne : names ≠ []) (hc : ∀ n ∈ names, comma ∉ n)
    (h : writeList names = .ok b) : readList (b ++ rest) = .ok (names, rest) := by
  rw [readList, string_rt _ b rest h]
  simp only [ok_bind, pure_eq_ok, split_join names hne hc]

theorem namelist_empty (b rest : Bytes) (h : writeList [] = .ok b) : readList (b ++ rest) = .ok ([[]], rest) := by
  rw [readList, string_rt _ b rest h]
  rfl

theorem createMpint_signed (n : Int) : signedBE (createMpint n) = n := by
  unfold createMpint
  simp only [signedBE_stripFF]
  by_cases h0 : n = 0
  · subst h0; simp [bitLen, toBE, signedBE]
  · simp only [h0, if_false]
    exact signed_roundtrip n _ (fits_of_bitLen n).1 (fits_of_bitLen n).2

/-- **mpint2 round trip, every integer of either sign** (the reader takes the sign from the first word only: D01) -/
theorem mpint2_rt (n : Int) (b rest : Bytes) (h : writeMpint2 n = .ok b) : readMpint2 (b ++ rest) = .ok (n, rest) := by
  unfold writeMpint2 at h
  unfold readMpint2
  rw [string_rt _ b rest h]
  simp only [bind, Except.bind, pure, Except.pure]
  rw [natsOf_bytesOf _ (createMpint_lt n), createMpint_signed]

theorem createMpintU_eq (n : Nat) : createMpintU n = minBE n :=
  dropWhile_toBE _ n (lt_pow_mpint_len n)

/-- mpint1 round trip for every natural number whose bit length fits the 16-bit header -/
theorem mpint1_rt (n : Nat) (b rest : Bytes) (h : writeMpint1 n = .ok b) : readMpint1 (b ++ rest) = .ok (n, rest) := by
  simp only [writeMpint1] at h
  split at h
  · next hb =>
    cases h
    have hlen : (bytesOf (minBE n)).length = (bitLen n + 7) / 8 := by rw [bytesOf_length, minBE_length]
    rw [createMpintU_eq, List.append_assoc, readMpint1_append (field_length _ 2), ofBE_field hb, ← hlen, List.take_left, List.drop_left,
      natsOf_bytesOf _ (minBE_lt n), ofBE_minBE]
  · cases h

/-- the integer-typed writer (what the code has) agrees with the natural-number one -/
theorem writeMpint1Z_nat (n : Nat) : writeMpint1Z (n : Int) = writeMpint1 n := by
  unfold writeMpint1Z writeMpint1
  rw [createMpintI_nat, Int.natAbs_natCast]

/-- KNOWN FINDING D02 (the statement "of either sign" is false for SSH-1 mpints): the writer
    accepts a negative number and the reader returns a different value. -/
theorem mpint1_negative_not_rt : (writeMpint1Z (-1)).bind readMpint1 = .ok (255, []) := by decide +kernel

/-- the checksum always fits the 32-bit field it is compared with -/
theorem crcCalc_lt (v : Bytes) : crcCalc v < 2 ^ 32 :=
  List.foldlRecOn (motive := (· < 2 ^ 32)) v _ (Nat.pow_pos (by decide)) fun _ h _ _ =>
    Nat.xor_lt_two_pow (Nat.lt_of_le_of_lt (Nat.shiftRight_le _ _) h) (crcTable_getD_lt _)

/-- **Every protocol-1.5 packet (any type, any data, any padding bytes of the right number — 8 of them when the length is a
    multiple of 8) is read back exactly by the SSH-1 packet reader**, trailing data untouched. -/
theorem frame1_read_back (t : UInt8) (data pad rest : Bytes) (hlen : data.length + 5 < 2 ^ 32) (hpad : pad.length = padLen1 (data.length + 5)) :
    readPacket1 (frame1 t data pad ++ rest) = .ok (some (t.toNat, data, rest)) := by
  have hp8 : ¬ ((padLen1 (data.length + 5) + (data.length + 5)) % 8 ≠ 0 ∨ data.length + 5 < 5) := by
    unfold padLen1; omega
  -- the four fields, each a prefix of what the reader has left: length, padding, type + data (`plen - 4` bytes), checksum
  obtain ⟨f1, f2, f3⟩ := field_prefix (field_length (data.length + 5) 4)
    (pad ++ ((t :: data) ++ (bytesOf (toBE (crcCalc (pad ++ t :: data)) 4) ++ rest)))
  have gpad := field_prefix hpad ((t :: data) ++ (bytesOf (toBE (crcCalc (pad ++ t :: data)) 4) ++ rest))
  have hpay : (t :: data).length = data.length + 5 - 4 := rfl
  have gpay := field_prefix hpay (bytesOf (toBE (crcCalc (pad ++ t :: data)) 4) ++ rest)
  have gcrc := field_prefix (field_length (crcCalc (pad ++ t :: data)) 4) rest
  have hen : ¬ ((t :: data) ++ (bytesOf (toBE (crcCalc (pad ++ t :: data)) 4) ++ rest)).length < data.length + 5 := by
    simp only [List.length_append, List.length_cons, field_length]; omega
  simp only [frame1, List.append_assoc]
  rw [readPacket1, if_neg f1, f2, f3, ofBE_field hlen]
  -- after the length field every test passes (`gpad.1`, `hp8`, `hen`) and every `take` / `drop` is a field or what follows it
  simp only [gpad, gpay, gcrc, hp8, hen, if_false, ofBE_field (L := 4) (crcCalc_lt (pad ++ t :: data)), ne_eq, not_true_eq_false]

-- non-vacuity: a packet whose length field is a multiple of 8 carries 8 bytes of padding
example : padLen1 8 = 8 ∧ readPacket1 (frame1 2 [1, 2, 3] (List.replicate 8 0) ++ [9]) = .ok (some (2, [1, 2, 3], [9])) := by decide +kernel

/-- a name-list that round-trips: non-empty, names comma-free (see `namelist_rt`) -/
def ListWF (l : List Bytes) : Prop := l ≠ [] ∧ ∀ n ∈ l, comma ∉ n
/-- well-formed message: 16-byte cookie, every list `ListWF` -/
def KexWF (k : Kex) : Prop :=
  k.cookie.length = 16 ∧ ListWF k.kex ∧ ListWF k.key ∧ ListWF k.encC ∧ ListWF k.encS ∧ ListWF k.macC ∧ ListWF k.macS
  ∧ ListWF k.compC ∧ ListWF k.compS ∧ ListWF k.langC ∧ ListWF k.langS

theorem kexinit_rt (k : Kex) (bs : Bytes) (hwf : KexWF k) (h : kexWrite k = .ok bs) : kexParse bs = .ok k := by
  obtain ⟨hc, h1, h2, h3, h4, h5, h6, h7, h8, h9, h10⟩ := hwf
  simp only [kexWrite, bind_eq_ok, pure_eq_ok, Except.ok.injEq] at h
  obtain ⟨a, e1, b, e2, c, e3, d, e4, e, e5, f, e6, g, e7, hh, e8, i, e9, j, e10, u, e11, rfl⟩ := h
  simp only [List.append_assoc]
  rw [kexParse, Wire.read, List.take_left' hc, List.drop_left' hc]
  refine bind_rt (namelist_rt _ _ _ h1.1 h1.2 e1) ?_
  refine bind_rt (namelist_rt _ _ _ h2.1 h2.2 e2) ?_
  refine bind_rt (namelist_rt _ _ _ h3.1 h3.2 e3) ?_
  refine bind_rt (namelist_rt _ _ _ h4.1 h4.2 e4) ?_
  refine bind_rt (namelist_rt _ _ _ h5.1 h5.2 e5) ?_
  refine bind_rt (namelist_rt _ _ _ h6.1 h6.2 e6) ?_
  refine bind_rt (namelist_rt _ _ _ h7.1 h7.2 e7) ?_
  refine bind_rt (namelist_rt _ _ _ h8.1 h8.2 e8) ?_
  refine bind_rt (namelist_rt _ _ _ h9.1 h9.2 e9) ?_
  refine bind_rt (namelist_rt _ _ _ h10.1 h10.2 e10) ?_
  refine bind_rt (bool_rt _ _) ?_
  exact bind_rt (List.append_nil u ▸ u32_rt _ u [] e11) rfl

theorem padLen_bounds (n : Nat) : 4 ≤ padLen n ∧ padLen n ≤ 11 ∧ (n + 5 + padLen n) % 8 = 0 := by
  unfold padLen; simp only; split <;> omega

theorem frame_eq (p bs : Bytes) (h : frame p = .ok bs) :
    p.length + padLen p.length + 1 < 2 ^ 32 ∧
      bs = bytesOf (toBE (p.length + padLen p.length + 1) 4) ++ [UInt8.ofNat (padLen p.length)] ++ p ++ List.replicate (padLen p.length) 0 := by
  simp only [frame, bind_eq_ok, pure_eq_ok, Except.ok.injEq] at h
  obtain ⟨hd, hw, rfl⟩ := h
  obtain ⟨hlt, rfl⟩ := writeInt_ok hw
  exact ⟨hlt, rfl⟩

/-- every emitted packet: total length a multiple of 8, 4 ≤ padding ≤ 11, consistent length field -/
theorem frame_wf (p bs : Bytes) (h : frame p = .ok bs) :
    ∃ pad, 4 ≤ pad ∧ pad ≤ 11 ∧ bs.length % 8 = 0 ∧ bs.length = 4 + 1 + p.length + pad ∧
      bs = bytesOf (toBE (p.length + pad + 1) 4) ++ [UInt8.ofNat pad] ++ p ++ List.replicate pad 0 := by
  obtain ⟨_, hbs⟩ := frame_eq p bs h
  obtain ⟨h4, h11, h8⟩ := padLen_bounds p.length
  have hl : bs.length = 4 + 1 + p.length + padLen p.length := by
    rw [hbs, List.length_append, List.length_append, List.length_append, field_length, List.length_replicate, List.length_singleton]
  exact ⟨padLen p.length, h4, h11, by omega, hl, hbs⟩

/-- the tool's own reader returns exactly the payload that was framed, whatever follows -/
theorem frame_read_back (t : UInt8) (body bs rest : Bytes) (h : frame (t :: body) = .ok bs) :
    readPacket (bs ++ rest) = .ok (some (t.toNat, body, rest)) := by
  obtain ⟨hlt, rfl⟩ := frame_eq _ _ h
  obtain ⟨h4, h11, h8⟩ := padLen_bounds (t :: body).length
  generalize padLen (t :: body).length = pad at *
  generalize hP : t :: body = P at *
  have hPl : P.length = body.length + 1 := by rw [← hP]; rfl
  have hbk : ¬ ((P.length + pad + 1 + 4) % 8 ≠ 0 ∨ P.length + pad + 1 < pad + 2) := by omega
  have hpl : P.length + pad + 1 - pad - 1 = P.length := by omega
  -- the fields, each a prefix of what the reader has left: length, (padding count,) payload `P`, padding
  obtain ⟨f1, f2, f3⟩ := field_prefix (field_length (P.length + pad + 1) 4) (UInt8.ofNat pad :: (P ++ (List.replicate pad 0 ++ rest)))
  have gpay := field_prefix (hd := P) rfl (List.replicate pad 0 ++ rest)
  have gpad := field_prefix (List.length_replicate (n := pad) (a := (0 : UInt8))) rest
  simp only [List.append_assoc, List.cons_append, List.nil_append]
  rw [readPacket, if_neg f1, f2, f3, ofBE_field hlt]
  -- after the length field: the block-size test passes (`hbk`), the payload has `plen - pad - 1 = P.length` bytes (`hpl`)
  simp only [UInt8.toNat_ofNat_of_lt' (show pad < 256 by omega), if_neg hbk, hpl, gpay, gpad, if_false]
  subst hP
  rfl

/-- **Any number of emitted packets, one after the other on a connection, are read back in order, each exactly, and nothing
    else** (the model reads from the bytes that have arrived; that the real reader is indifferent to how they were cut into
    `recv` results is exercised by the correspondence check) -/
theorem frames_read_back (pf : List ((UInt8 × Bytes) × Bytes)) (h : ∀ x ∈ pf, frame (x.1.1 :: x.1.2) = .ok x.2) :
    readPackets (pf.length + 1) (pf.map (·.2)).flatten = (pf.map (fun x => (x.1.1.toNat, x.1.2)), none) := by
  induction pf with
  | nil => simp [readPackets, readPacket]
  | cons x rest ih =>
    simp only [List.length_cons, List.map_cons, List.flatten_cons]
    unfold readPackets
    rw [frame_read_back x.1.1 x.1.2 x.2 (rest.map (·.2)).flatten (h x (List.mem_cons_self))]
    simp only
    rw [ih (fun y hy => h y (List.mem_cons_of_mem _ hy))]

/-- an independently written RFC 4253 §6 decoder accepts every emitted packet and returns its payload -/
theorem frame_rfc (p bs : Bytes) (h : frame p = .ok bs) : rfcDecode bs = some p := by
  obtain ⟨hlt, rfl⟩ := frame_eq _ _ h
  obtain ⟨h4, h11, h8⟩ := padLen_bounds p.length
  generalize padLen p.length = pad at *
  generalize hv : p.length + pad + 1 = v at *
  -- the header is four bytes whose big-endian value is `v`, which `rfcDecode` computes by Horner's rule
  obtain ⟨a, b, c, d, hb⟩ : ∃ a b c d, bytesOf (toBE v 4) = [a, b, c, d] := ⟨_, _, _, _, rfl⟩
  have hval := ofBE_field (L := 4) hlt
  rw [hb] at hval
  simp only [natsOf, List.map, ofBE, List.foldl, Nat.zero_mul, Nat.zero_add] at hval
  simp only [hb, List.cons_append, List.nil_append, rfcDecode, hval, UInt8.toNat_ofNat_of_lt' (show pad < 256 by omega)]
  rw [if_pos ⟨by simp only [List.length_cons, List.length_append, List.length_replicate]; omega, h4, by omega,
    by simp only [List.length_append, List.length_replicate]; omega⟩]
  rw [show v - 1 - pad = p.length by omega, List.take_left]

theorem crc_fold (v : Bytes) (c0 : Nat) :
    v.foldl (fun crc b => (crc >>> 8) ^^^ crcTable.getD (b.toNat ^^^ (crc % 256)) 0) c0
      = v.foldl (fun crc b => crcBitStepN 8 (crc ^^^ b.toNat)) c0 := by
  congr 1
  funext crc b
  exact crc_table_step crc b.toNat b.toNat_lt

/-- the table-driven `SSH1_CRC32.calc` equals the bit-serial CRC-32 definition, for every byte string -/
theorem crc_table_eq_spec (v : Bytes) : crcCalc v = crcSpec v := crc_fold v 0

example : writeMpint2 (-6442450944) = .ok [0,0,0,5, 0xfe,0x80,0,0,0] := by decide +kernel
example : readMpint2 [0,0,0,5, 0xfe,0x80,0,0,0] = .ok (-6442450944, []) := by decide +kernel
example : writeMpint2 (-128) = .ok [0,0,0,1,0x80] ∧ writeMpint2 128 = .ok [0,0,0,2,0,0x80] := by decide +kernel
example : frame [20, 1, 2, 3] = .ok [0,0,0,12, 7, 20,1,2,3, 0,0,0,0,0,0,0] := by decide +kernel
example : crcCalc "The quick brown fox jumps over the lazy dog".toUTF8.toList = 0xb9c60808 := by
  -- evaluated bit by bit: cheaper than building the table
  rw [crc_table_eq_spec]
  decide +kernel

/-- **SSH-1 public-key message round trip**: every message with an 8-byte cookie that the writer accepts (32-bit integer fields, mpints whose bit
    length fits the 16-bit header) is parsed back field by field -/
theorem pkm_rt (p : Pkm) (bs : Bytes) (hc : p.cookie.length = 8) (h : pkmWrite p = .ok bs) : pkmParse bs = .ok p := by
  simp only [pkmWrite, bind_eq_ok, pure_eq_ok, Except.ok.injEq] at h
  obtain ⟨a, e1, b, e2, c, e3, d, e4, e, e5, f, e6, g, e7, hh, e8, i, e9, rfl⟩ := h
  simp only [List.append_assoc]
  rw [pkmParse, Wire.read, List.take_left' hc, List.drop_left' hc]
  refine bind_rt (u32_rt _ _ _ e1) ?_
  refine bind_rt (mpint1_rt _ _ _ e2) ?_
  refine bind_rt (mpint1_rt _ _ _ e3) ?_
  refine bind_rt (u32_rt _ _ _ e4) ?_
  refine bind_rt (mpint1_rt _ _ _ e5) ?_
  refine bind_rt (mpint1_rt _ _ _ e6) ?_
  refine bind_rt (u32_rt _ _ _ e7) ?_
  refine bind_rt (u32_rt _ _ _ e8) ?_
  exact bind_rt (List.append_nil i ▸ u32_rt _ i [] e9) rfl

example : pkmWrite { cookie := List.replicate 8 1, skBits := 768, skE := 65537, skN := 12345678901234567890, hkBits := 1024, hkE := 35, hkN := 255,
                     pflags := 2, cmask := 72, amask := 36 } ≠ .error .struct := by decide

end SshAudit.C10
