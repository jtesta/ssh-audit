/-
  Regenerated logic against the hand-written model, fourth unit (`Gen/Logic4.lean`; scheme: `GenLogic.lean`): the Terrapin rule of
  `post_process_findings` (C04) and the line buffer of outputbuffer.py (C15).

  `Gen.Logic.terrapin_rule` is the run of statements from `kex_strict_marker = False` to the advisory note: `_add_terrapin_warning(db,
  category, name)` is the external call (over an abstract state: here the log of the marks made), the three helpers that list the enabled
  ChaCha20-Poly1305 ciphers / CBC ciphers / encrypt-then-MAC MACs are parameters (their per-name tests are `is_chacha` / `is_cbc` /
  `is_etm` of `Gen/Logic.lean`).

  Equations whose left side follows the generated text of a straight-line expression: `appendToLast_eq`, and the local `hm`, `hl` of
  `terrapin_rule_eq_model`.
-/
import SshAudit.Gen.Logic4
import SshAudit.Lemmas.Py
import SshAudit.Model.Report
import SshAudit.Model.Output
set_option linter.unusedSimpArgs false
namespace SshAudit.GenLogic
open SshAudit

/-- `_add_terrapin_warning(db, category, name)` as a log of the marks made, in order -/
def markLog (st : List (Str × Str)) (cat name : Str) : List (Str × Str) := st ++ [(cat, name)]

/-- one of the three marking loops: with the marker present the names go to the advisory list, otherwise each is marked -/
theorem foldl_mark {F : List Str × List (Str × Str) → Str → List Str × List (Str × Str)} {m : Bool} {cat : Str}
    (hF : ∀ acc x, F acc x = if m then (acc.1 ++ [x], acc.2) else (acc.1, markLog acc.2 cat x)) (l : List Str) (p : List Str × List (Str × Str)) :
    List.foldl F p l = if m then (p.1 ++ l, p.2) else (p.1, p.2 ++ l.map (fun x => (cat, x))) := by
  induction l generalizing p with
  | nil => cases m <;> simp
  | cons a as ih =>
    rw [List.foldl_cons, ih, hF]
    cases m <;> simp [markLog]

theorem rStrictS_lit : Report.strictS = ['k', 'e', 'x', '-', 's', 't', 'r', 'i', 'c', 't', '-', 's', '-', 'v', '0', '0', '@', 'o', 'p', 'e', 'n', 's', 's', 'h', '.', 'c', 'o', 'm'] := String.toList_ofList
theorem rStrictC_lit : Report.strictC = ['k', 'e', 'x', '-', 's', 't', 'r', 'i', 'c', 't', '-', 'c', '-', 'v', '0', '0', '@', 'o', 'p', 'e', 'n', 's', 's', 'h', '.', 'c', 'o', 'm'] := String.toList_ofList
theorem encC_lit : Report.encC = ['e', 'n', 'c'] := String.toList_ofList
theorem macC_lit : Report.macC = ['m', 'a', 'c'] := String.toList_ofList
theorem advisory_lit (names : List Str) : Report.advisory names =
    "Be aware that, while this target properly supports the strict key exchange method (via the kex-strict-?-v00@openssh.com marker) needed to protect against the Terrapin vulnerability (CVE-2023-48795), all peers must also support this feature as well, otherwise the vulnerability will still be present.  The following algorithms would allow an unpatched peer to create vulnerable SSH channels with this target: ".toList
      ++ Text.join [',', ' '] names ++ ".  If any CBC ciphers are in this list, you may remove them while leaving the *-etm@openssh.com MACs in place; these MACs are fine while paired with non-CBC cipher types.".toList := rfl

seal Report.advisory

/-- the published rule, for every key-exchange list, role and every three lists of enabled ChaCha20-Poly1305 ciphers, CBC ciphers and
    encrypt-then-MAC MACs: without the strict-key-exchange marker of the audited role exactly the ChaCha20 ciphers, and the CBC ciphers and
    EtM MACs when both kinds are offered, are marked (in that order, each under its own category) and nothing is noted; with it nothing is
    marked and the advisory names exactly those algorithms -/
theorem terrapin_rule_eq_model (kexAlgs chacha cbc etm : List Str) (client : Bool) :
    Gen.Logic.terrapin_rule markLog [] true kexAlgs client [] chacha cbc etm =
      (let marker := (client && kexAlgs.contains Report.strictC) || (!client && kexAlgs.contains Report.strictS)
       let both := !cbc.isEmpty && !etm.isEmpty
       let venc := chacha ++ (if both then cbc else [])
       let vmac := if both then etm else []
       (some (marker, (if marker then venc ++ vmac else []),
              (if marker && !(venc ++ vmac).isEmpty then [Report.advisory (venc ++ vmac)] else [])),
        if marker then [] else venc.map (fun x => (Report.encC, x)) ++ vmac.map (fun x => (Report.macC, x)))) := by
  simp only [Gen.Logic.terrapin_rule, ← rStrictS_lit, ← rStrictC_lit, ← encC_lit, ← macC_lit, Bool.true_and, Prod.eta, -String.reduceToList]
  generalize ((client && kexAlgs.contains Report.strictC) || (!client && kexAlgs.contains Report.strictS)) = m
  have hm : (if m = true then true else false) = m := by cases m <;> rfl
  have hl (l : List Str) : decide (Int.ofNat l.length > 0) = !l.isEmpty := by cases l <;> simp <;> omega
  simp only [hm, hl]
  -- each of the three generated loops: its body is the pass `foldl_mark` assumes (`hF`), by unfolding
  rw [foldl_mark (m := m) (cat := Report.encC) ?hF chacha]
  case hF => exact fun _ _ => rfl
  rw [foldl_mark (m := m) (cat := Report.encC) ?hF cbc]
  case hF => exact fun _ _ => rfl
  rw [foldl_mark (m := m) (cat := Report.macC) ?hF etm]
  case hF => exact fun _ _ => rfl
  cases m <;> cases hb : (!cbc.isEmpty && !etm.isEmpty) <;> simp [hb, advisory_lit, -String.reduceToList]

/-- … and this is what the report model's `postProcess` computes from a peer: the same marker, the same marks in the same order -/
theorem terrapin_rule_postProcess (db : DB) (peer : Report.Peer) (client : Bool) (sw : Option Str) (rate : Str) :
    let R := Report.postProcess db peer client sw rate
    let G := Gen.Logic.terrapin_rule markLog [] true peer.kex client []
      ((Report.ciphersOf peer client).filter Report.isChacha) ((Report.ciphersOf peer client).filter Report.isCbc)
      ((Report.macsOf peer client).filter Report.isEtm)
    G.2 = R.vulnerable ∧ G.1.map (fun r => r.1) = some R.marker := by
  simp only [terrapin_rule_eq_model, Report.postProcess, Report.markerFor, Report.Venc, Report.Vmac, Report.both]
  exact ⟨rfl, rfl⟩

/-- the name `_print` is called with for each method of the buffer -/
def methText : Output.Meth → Str
  | .good => "good".toList
  | .info => "info".toList
  | .warn => "warn".toList
  | .fail => "fail".toList
  | .head => "head".toList

/-- `OutputBuffer.get_level`: never raises; `good` counts as `info`, a name outside `LEVELS` is `sys.maxsize` -/
theorem get_level_eq_model (m : Output.Meth) :
    Gen.Logic.get_level (methText m) = some (match Output.getLevel m with | some k => (k : Int) | none => 9223372036854775807) := by
  cases m <;> decide +kernel

/-- the test that drops a message below the minimum level is the negation of `Output.passes` -/
theorem print_filtered_eq_model (always : Bool) (m : Output.Meth) (lv : Nat) (hlv : lv ≤ 3) :
    Gen.Logic.print_filtered always (methText m) (lv : Int) = some (!Output.passes lv m always) := by
  simp only [Gen.Logic.print_filtered, get_level_eq_model, Output.passes]
  cases always
  · -- the method's level against `lv ≤ 3`
    cases m <;> simp [Output.getLevel] <;> omega
  · cases m <;> simp [Output.getLevel]

theorem appendToLast_eq (x : Str) (xs : List Str) (t : Str) :
    ((x :: xs)[xs.length]?).bind (fun e => Py.setAt? (x :: xs) xs.length (e ++ t)) = Output.appendToLast (x :: xs) t := by
  induction xs generalizing x with
  | nil => rfl
  | cons y r ih =>
    rw [List.length_cons, List.getElem?_cons_succ, Output.appendToLast, ← ih y]
    cases (y :: r)[r.length]? with
    | none => rfl
    | some e =>
      simp only [Option.bind_some, Py.setAt?]
      cases Py.setAt? (y :: r) r.length (e ++ t) <;> rfl

/-- appending to the line buffer: a new entry when the last line was ended, otherwise the text is added to the last entry (`IndexError` on an
    empty buffer) -/
theorem append_line_eq_model (buf : List Str) (t : Str) (ended : Bool) :
    Gen.Logic.append_line buf t ended = (if ended then some (buf ++ [t]) else Output.appendToLast buf t) := by
  cases ended
  · cases buf with
    | nil => simp [Gen.Logic.append_line, Py.getItem, Output.appendToLast]
    | cons x xs =>
      have hpos : decide (Int.ofNat (x :: xs).length > 0) = true := by simp
      simp only [Gen.Logic.append_line, Bool.not_false, if_true, Bool.false_eq_true, if_false, hpos, Py.getItem_neg_one, Py.setItem_neg_one,
        Option.bind_fun_some, appendToLast_eq]
  · simp [Gen.Logic.append_line]

end SshAudit.GenLogic
