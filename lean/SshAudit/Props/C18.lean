/-
  C18 — The tool connects to, and reports on, exactly the target that was named.

  Model: SshAudit.Model.Target (tied to utils.py, ssh_audit.py, auditconf.py, ssh_socket.py by
  correspondence, unit-wise and on whole main() runs over the fake network).  The theorems
  quantify over all strings / ports / resolver answers; where a port is printed it is below `10 ^ 4300`
  (CPython's limit for `int(str)`); `prefer_v6_dials_v6` is one concrete run.
-/
import SshAudit.Lemmas.Target
namespace SshAudit.C18
open SshAudit SshAudit.Text SshAudit.Target

/-- a host name or an IPv4 literal as written -/
def NameLike (h : Str) : Prop := h ≠ [] ∧ ':' ∉ h ∧ h.head? ≠ some '['

/-- an IPv6 literal as written (every text `ipaddress.IPv6Address` accepts has two colons: `ipv6_two_colons`) -/
def V6Like (h : Str) : Prop := 2 ≤ h.count ':' ∧ '[' ∉ h ∧ ']' ∉ h

/-- a port as written (leading zeros allowed; CPython refuses more than 4300 digits) -/
def PortText (ds : Str) : Prop := ds ≠ [] ∧ (∀ c ∈ ds, isDigit c = true) ∧ ds.length ≤ maxStrDigits

/-- `Spelled text host port?`: `text` is a documented spelling of `host` with an optional explicit port -/
inductive Spelled : Str → Str → Option Nat → Prop
  | bare (h : Str) : NameLike h → Spelled h h none
  | withPort (h ds : Str) : NameLike h → PortText ds → Spelled (h ++ ':' :: ds) h (some (decVal ds))
  | v6 (h : Str) : V6Like h → Spelled h h none
  | v6Bracket (h : Str) : V6Like h → Spelled ('[' :: h ++ [']']) h none
  | v6BracketPort (h ds : Str) : V6Like h → PortText ds → Spelled ('[' :: h ++ ']' :: ':' :: ds) h (some (decVal ds))

/-- the port a spelling denotes under a default -/
def portOf (e : Option Nat) (dflt : Int) : Int := match e with | some p => (p : Int) | none => dflt

/-- `str(p)` is a port text that reads back as `p` -/
theorem portText_showNat (p : Nat) (h : p < 10 ^ maxStrDigits) : PortText (showNat p) ∧ decVal (showNat p) = p := by
  rw [decVal_eq, showNat_eq_natToStr]
  refine ⟨⟨natToStr_ne_nil p, natToStr_digits p, ?_⟩, ofDigitChars_natToStr p⟩
  rw [natToStr_eq]
  exact (Nat.length_toDigits_le_iff (by decide) (by decide)).2 h

theorem NameLike.ne_nil {h : Str} (hn : NameLike h) : h ≠ [] := hn.1

theorem V6Like.ne_nil {h : Str} (hv : V6Like h) : h ≠ [] := by
  obtain ⟨hcolons, -, -⟩ := hv
  intro e; subst e; simp at hcolons

theorem V6Like.no_close {h : Str} (hv : V6Like h) : ']' ∉ h := hv.2.2

theorem V6Like.head {h : Str} (hv : V6Like h) : h.head? ≠ some '[' := fun e => hv.2.1 (List.mem_of_head? e)

/-! What `parseHostPort` reads back, by spelling: `h` — `parse_name`; `h:ds` — `parse_name_port` (with `ds = str(p)`, the JSON label:
`label_json_matches`); a bare IPv6 literal — `parse_bare_v6`; `[h]` — `parse_bracket`; `[h]:ds` — `parse_bracket_port`; every `Spelled`
text — `parse_forms`; the labels the tool prints — `label_matches`, `label_verbose_matches`. -/

theorem parse_name (h : Str) (d : Int) (hn : NameLike h) : parseHostPort h d = .ok (h, d) := by
  obtain ⟨-, hcolon, hhead⟩ := hn
  apply parse_default h d (bracketMatch_none h hhead)
  rw [splitOn_of_not_mem ':' hcolon]; simp

theorem parse_name_port (h ds : Str) (d : Int) (hn : NameLike h) (hp : PortText ds) :
    parseHostPort (h ++ ':' :: ds) d = .ok (h, (decVal ds : Nat)) := by
  obtain ⟨hne, hc, hb⟩ := hn
  obtain ⟨hdne, hdig, hdlen⟩ := hp
  have hhead : (h ++ ':' :: ds).head? ≠ some '[' := by
    cases h with
    | nil => exact absurd rfl hne
    | cons c r => simpa using hb
  unfold parseHostPort
  rw [bracketMatch_none _ hhead, splitOn_append_sep ':' hc ds, splitOn_of_not_mem ':' (fun hc => absurd (hdig ':' hc) (by decide))]
  have hl : ds.length > 0 := List.length_pos_iff.mpr hdne
  simp only [hl, if_true, pyInt_digits ds hdne hdig hdlen]

theorem parse_bare_v6 (h : Str) (d : Int) (hv : V6Like h) : parseHostPort h d = .ok (h, d) := by
  apply parse_default h d (bracketMatch_none h hv.head)
  obtain ⟨hcolons, -, -⟩ := hv
  rw [splitOn_length]; omega

theorem parse_bracket (h : Str) (d : Int) (hne : h ≠ []) (hb : ']' ∉ h) :
    parseHostPort ('[' :: h ++ [']']) d = .ok (h, d) := by
  rw [parseHostPort, bracketMatch_bracket h [] hne hb]
  rfl

theorem parse_bracket_port (h ds : Str) (d : Int) (hne : h ≠ []) (hb : ']' ∉ h) (hp : PortText ds) :
    parseHostPort ('[' :: h ++ ']' :: ':' :: ds) d = .ok (h, (decVal ds : Nat)) := by
  obtain ⟨hdne, hdig, hdlen⟩ := hp
  rw [parseHostPort, bracketMatch_bracket h (':' :: ds) hne hb, afterBracket_port h ds hdne hdig]
  simp only [pyInt_digits ds hdne hdig hdlen]

/-- every documented spelling is read as the host and port it denotes -/
theorem parse_forms (s h : Str) (e : Option Nat) (d : Int) (hs : Spelled s h e) :
    parseHostPort s d = .ok (h, portOf e d) := by
  cases hs with
  | bare _ hn => exact parse_name _ d hn
  | withPort _ ds hn hp => exact parse_name_port _ ds d hn hp
  | v6 _ hv => exact parse_bare_v6 _ d hv
  | v6Bracket _ hv => exact parse_bracket _ d hv.ne_nil hv.no_close
  | v6BracketPort _ ds hv hp => exact parse_bracket_port _ ds d hv.ne_nil hv.no_close hp

theorem Spelled.text_ne_nil {s h : Str} {e : Option Nat} (hs : Spelled s h e) : s ≠ [] := by
  cases hs with
  | bare _ hn => exact hn.ne_nil
  | withPort _ ds hn hp => cases h <;> simp
  | v6 _ hv => exact hv.ne_nil
  | v6Bracket _ hv => simp
  | v6BracketPort _ ds hv hp => simp

theorem Spelled.host_ne_nil {s h : Str} {e : Option Nat} (hs : Spelled s h e) : h ≠ [] := by
  cases hs with
  | bare _ hn => exact hn.ne_nil
  | withPort _ ds hn hp => exact hn.ne_nil
  | v6 _ hv => exact hv.ne_nil
  | v6Bracket _ hv => exact hv.ne_nil
  | v6BracketPort _ ds hv hp => exact hv.ne_nil

/-- a single target on the command line -/
def single (s : Str) (q : Option Int) (flags : List Nat) : Args :=
  { host := s, oport := q, flags := flags, clientAudit := false, targets := none }

theorem cmdline_single (s h : Str) (e : Option Nat) (q : Option Int) (flags : List Nat) (hs : Spelled s h e)
    (hq : ∀ v, q = some v → InRange v) :
    cmdline (single s q flags) = match checkPort (portOf e (optDefault q)) with
      | .error x => .error x
      | .ok p => .ok { host := h, port := p, pref := ipPref flags, clientAudit := false, targetList := [] } := by
  have ht : cmdTarget (single s q flags) = .ok (h, portOf e (optDefault q)) := by
    simp [cmdTarget, single, parse_forms s h e (optDefault q) hs, hs.host_ne_nil]
  -- `-p` is only the default of a single target: the port of the target stays
  have hp : ∀ p, cmdPort (single s q flags) p = .ok p := by
    intro p
    cases q with
    | none => simp [cmdPort, single]
    | some v => simp [cmdPort, single, (inRange_iff v).1 (hq v rfl)]
  unfold cmdline
  rw [if_neg (fun hc => hs.text_ne_nil hc.1), ht]
  simp only [hp]
  rfl

/-- with a valid `-p q` or none, every documented spelling yields the spelled host and (explicit port, else `q`, else 22),
    provided that port is in 1..65535.  (D18) -/
theorem cmdline_port_default (s h : Str) (e : Option Nat) (q : Option Int) (flags : List Nat) (hs : Spelled s h e)
    (hq : ∀ v, q = some v → InRange v) (hp : InRange (portOf e (optDefault q))) :
    cmdline (single s q flags)
      = .ok { host := h, port := portOf e (optDefault q), pref := ipPref flags, clientAudit := false, targetList := [] } := by
  rw [cmdline_single s h e q flags hs hq, checkPort_eq, if_pos hp]

/-- a port outside 1..65535 written in the target is refused by `process_commandline` -/
theorem cmdline_bad_target_port (s h : Str) (p : Nat) (q : Option Int) (flags : List Nat) (hs : Spelled s h (some p))
    (hq : ∀ v, q = some v → InRange v) (hp : ¬ InRange p) :
    cmdline (single s q flags) = .error .value := by
  rw [cmdline_single s h _ q flags hs hq, show portOf (some p) (optDefault q) = p from rfl, checkPort_eq, if_neg hp]

/-- an out-of-range `-p` is refused whatever the rest of the command line says -/
theorem cmdline_bad_option (a : Args) (v : Int) (hq : a.oport = some v) (hv : ¬ InRange v) :
    ∃ e, cmdline a = .error e := by
  unfold cmdline
  split
  · exact ⟨_, rfl⟩
  · cases hT : cmdTarget a with
    | error e => exact ⟨e, rfl⟩
    | ok hp => exact ⟨.sysExit UNKNOWN_ERROR, by simp only [cmdPort_bad hq hv]⟩

/-- for every sequence of `-4` / `-6` options the recorded `ip_version_preference` is the list of requested versions in the
    order the options were given (first appearances: `-64`, `-6 -4`, `-646` give `[6, 4]`; `-46`, `-446` give `[4, 6]`;
    `-4 -4` gives `[4]`) (D33). -/
theorem cmdline_family_order (flags : List Nat) (hf : FlagsOK flags) : ipPref flags = requestedOrder flags := by
  rw [ipPref, ipPref_fold flags [] hf, List.nil_append]
  exact List.filter_eq_self.2 fun _ _ => rfl

/-- `10 - f` is the other version -/
theorem ipPref_cons (f : Nat) (r : List Nat) (hf : FlagsOK (f :: r)) :
    ipPref (f :: r) = f :: (if 10 - f ∈ r then [10 - f] else []) := by
  have hr : ∀ x ∈ r, x = 4 ∨ x = 6 := fun x hx => hf x (List.mem_cons_of_mem _ hx)
  rw [cmdline_family_order _ hf]
  rcases hf f (by simp) with rfl | rfl
  · exact requestedOrder_cons (a := 4) (b := 6) (by decide) r hr
  · exact requestedOrder_cons (a := 6) (b := 4) (by decide) r (fun x hx => (hr x hx).symm)

/-- with only `-4` (only `-6`) the resolver is asked for that family alone; with both or none it is asked for any family -/
theorem family_single (flags : List Nat) (hf : FlagsOK flags) :
    familyArg (ipPref flags) =
      if 4 ∈ flags ∧ 6 ∉ flags then AF_INET else if 6 ∈ flags ∧ 4 ∉ flags then AF_INET6 else 0 := by
  cases flags with
  | nil => rfl
  | cons f r =>
    rw [ipPref_cons f r hf]
    rcases hf f (by simp) with rfl | rfl
    · by_cases h6 : 6 ∈ r <;> simp [familyArg, h6]
    · by_cases h4 : 4 ∈ r <;> simp [familyArg, h4]

def streamsOf (fam : Nat) (ans : List AddrInfo) : List AddrInfo :=
  ans.filter (fun a => a.af == fam && a.stype == SOCK_STREAM)

theorem resolveOrder_pair (a b : Nat) (ans : List AddrInfo) (h : ∀ x ∈ ans, x.af = AF_INET ∨ x.af = AF_INET6) :
    resolveOrder [a, b] ans =
      if a = 6 then streamsOf AF_INET6 ans ++ streamsOf AF_INET ans else streamsOf AF_INET ans ++ streamsOf AF_INET6 ans := by
  have : resolveOrder [a, b] ans = (sortBy (a == 6) ans).filter (fun x => x.stype == SOCK_STREAM) := by simp [resolveOrder]
  rw [this, sortBy_two _ ans AF_INET AF_INET6 (by decide) h]
  by_cases ha : a = 6 <;>
    simp only [ha, beq_self_eq_true, beq_iff_eq, if_true, if_false, List.filter_append, List.filter_filter, streamsOf, Bool.and_comm]

/-- for a preference of two versions and an answer of IPv4 / IPv6 addresses, the addresses `_resolve` yields are all stream
    addresses of the preferred family followed by all of the other family, each in the resolver's order -/
theorem family_order (ans : List AddrInfo) (h : ∀ a ∈ ans, a.af = AF_INET ∨ a.af = AF_INET6) :
    resolveOrder [4, 6] ans = streamsOf AF_INET ans ++ streamsOf AF_INET6 ans ∧
    resolveOrder [6, 4] ans = streamsOf AF_INET6 ans ++ streamsOf AF_INET ans :=
  ⟨(resolveOrder_pair 4 6 ans h).trans (if_neg (by decide)), (resolveOrder_pair 6 4 ans h).trans (if_pos rfl)⟩

/-- no preference or a single version: the resolver's order is kept -/
theorem family_order_single (pref : List Nat) (ans : List AddrInfo) (h : pref.length ≠ 2) :
    resolveOrder pref ans = ans.filter (fun a => a.stype == SOCK_STREAM) := by
  simp [resolveOrder, h]

/-- when both versions are requested on the command line, `_resolve` yields the addresses with the family of the option given
    first in front: `-64` / `-6 -4` put every IPv6 stream address before any IPv4 one, `-46` / `-4 -6` the other way round
    (resolver order kept inside a family) -/
theorem run_family_order (flags : List Nat) (ans : List AddrInfo) (hf : FlagsOK flags) (h4 : 4 ∈ flags) (h6 : 6 ∈ flags)
    (h : ∀ a ∈ ans, a.af = AF_INET ∨ a.af = AF_INET6) :
    resolveOrder (ipPref flags) ans =
      if flags.head? = some 6 then streamsOf AF_INET6 ans ++ streamsOf AF_INET ans
      else streamsOf AF_INET ans ++ streamsOf AF_INET6 ans := by
  cases flags with
  | nil => simp at h4
  | cons f r =>
    have hother : 10 - f ∈ r := by
      rcases hf f (by simp) with rfl | rfl
      · simpa using h6
      · simpa using h4
    rw [ipPref_cons f r hf, if_pos hother, resolveOrder_pair _ _ ans h]
    simp

/-- whatever the families in the answer: `_resolve` yields a permutation of its stream addresses
    (nothing invented, nothing lost) -/
theorem resolveOrder_perm (pref : List Nat) (ans : List AddrInfo) :
    (resolveOrder pref ans).Perm (ans.filter (fun a => a.stype == SOCK_STREAM)) := by
  unfold resolveOrder
  split
  · exact (sortBy_perm _ ans).filter _
  · exact List.Perm.refl _

/-- one `connect()` asks the resolver once, for exactly the given host, port and the family argument, and dials at most one
    address: the first one of `_resolve`'s order -/
theorem first_only (pref : List Nat) (host : Str) (port : Int) (res : Resolver) (up : AddrInfo → Bool) :
    (dial pref host port res up).1 =
      Event.resolve host port (familyArg pref) ::
        (match res host port (familyArg pref) with
         | none => []
         | some ans =>
           match (resolveOrder pref ans).head? with
           | none => []
           | some a => [Event.connect a.af a.ip a.port]) := by
  unfold dial
  cases res host port (familyArg pref) with
  | none => rfl
  | some ans =>
    simp only
    cases resolveOrder pref ans with
    | nil => rfl
    | cons a r => rfl

/-- every text `ipaddress.IPv6Address` accepts (compressed, full, with an IPv4 suffix, with a scope id) is non-empty and has
    at least two colons -/
theorem ipv6_two_colons (h : Str) (hv : isIPv6 h = true) : 2 ≤ h.count ':' ∧ h ≠ [] := by
  have key : 2 ≤ h.count ':' := by
    -- `h` is its pieces around `%` joined again: the address, or the address and a scope id
    have hj := join_splitOn '%' h
    unfold isIPv6 at hv
    split at hv
    · simp at hv
    · split at hv
      · next a hs => rw [← hj, hs]; exact isIPv6Addr_colons a hv
      · next a sc hs =>
        simp only [Bool.and_eq_true] at hv
        rw [← hj, hs]
        show 2 ≤ (a ++ ['%'] ++ sc).count ':'
        rw [List.append_assoc, List.count_append]
        exact Nat.le_trans (isIPv6Addr_colons a hv.2) (Nat.le_add_right _ _)
      · simp at hv
  exact ⟨key, fun e => by simp [e] at key⟩

theorem nameLike_not_ipv6 (h : Str) (hn : NameLike h) : isIPv6 h = false := by
  cases hv : isIPv6 h with
  | false => rfl
  | true =>
    have := (ipv6_two_colons h hv).1
    have h0 : h.count ':' = 0 := List.count_eq_zero.2 hn.2.1
    omega

def shownPort (p : Nat) : Option Nat := if (p : Int) = 22 then none else some p

theorem portOf_shownPort (p : Nat) : portOf (shownPort p) 22 = (p : Int) := by
  unfold shownPort portOf
  split <;> simp_all

theorem bracketed_name {h : Str} (hn : NameLike h) : bracketed h = h := by
  simp [bracketed, nameLike_not_ipv6 h hn]

/-- a host whose label reads back -/
def Labelable (h : Str) : Prop := NameLike h ∨ (isIPv6 h = true ∧ '[' ∉ h ∧ ']' ∉ h)

theorem labelVerbose_spelled (h : Str) (p : Nat) (hp : p < 10 ^ maxStrDigits) (hh : Labelable h) :
    Spelled (labelVerbose h p) h (some p) := by
  obtain ⟨hpt, hdv⟩ := portText_showNat p hp
  rw [labelVerbose, showInt_natCast]
  rcases hh with hn | ⟨hv, hb⟩
  · simpa [bracketed_name hn, hdv] using Spelled.withPort h _ hn hpt
  · simpa [bracketed, hv, hdv] using Spelled.v6BracketPort h _ ⟨(ipv6_two_colons h hv).1, hb⟩ hpt

/-- the text label of a report on `(h, p)` — "(gen) target:" in a multi-target run, "Host:" in a policy run — is `h`, `h:p` or
    `[h6]:p` (port shown iff it is not 22): itself a documented spelling of exactly `(h, p)` -/
theorem label_spelled (h : Str) (p : Nat) (hp : p < 10 ^ maxStrDigits)
    (hh : NameLike h ∨ (isIPv6 h = true ∧ '[' ∉ h ∧ ']' ∉ h)) :
    Spelled (labelText h p) h (shownPort p) := by
  unfold labelText shownPort
  by_cases h22 : (p : Int) = 22
  · simp only [h22, bne_self_eq_false, Bool.false_eq_true, if_false, if_true]
    rcases hh with hn | ⟨hv, hb⟩
    · exact .bare h hn
    · exact .v6 h ⟨(ipv6_two_colons h hv).1, hb⟩
  · simp only [bne_iff_ne, ne_eq, h22, not_false_eq_true, if_true, if_false]
    exact labelVerbose_spelled h p hp hh

/-- the text label of a report on `(h, p)` reads back as `(h, p)` -/
theorem label_matches (h : Str) (p : Nat) (hp : p < 10 ^ maxStrDigits)
    (hh : NameLike h ∨ (isIPv6 h = true ∧ '[' ∉ h ∧ ']' ∉ h)) :
    parseHostPort (labelText h p) 22 = .ok (h, (p : Int)) := by
  rw [parse_forms _ h _ 22 (label_spelled h p hp hh), portOf_shownPort]

/-- the label of the "Starting audit of …" line (-v), which always shows the port, reads back as `(h, p)` under every default -/
theorem label_verbose_matches (h : Str) (p : Nat) (hp : p < 10 ^ maxStrDigits)
    (hh : NameLike h ∨ (isIPv6 h = true ∧ '[' ∉ h ∧ ']' ∉ h)) (d : Int) :
    parseHostPort (labelVerbose h p) d = .ok (h, (p : Int)) :=
  parse_forms _ h _ d (labelVerbose_spelled h p hp hh)

/-- the JSON label `host:port` of a host name / IPv4 literal reads back as `(h, p)` -/
theorem label_json_matches (h : Str) (p : Nat) (hp : p < 10 ^ maxStrDigits) (hn : NameLike h) (d : Int) :
    parseHostPort (labelJson h p) d = .ok (h, (p : Int)) := by
  have := label_verbose_matches h p hp (.inl hn) d
  rwa [labelVerbose, bracketed_name hn] at this

/-- the JSON label of an IPv6 literal does not read back (observation D30): `::1:2222` is read as a bare IPv6 host -/
theorem json_label_v6_not_reparsed (h : Str) (p : Nat) (hv : V6Like h) (d : Int) :
    parseHostPort (labelJson h p) d = .ok (labelJson h p, d) := by
  rw [labelJson, showInt_natCast]
  apply parse_default
  · apply bracketMatch_none
    cases h with
    | nil => exact absurd rfl hv.ne_nil
    | cons c r => simpa using hv.head
  · obtain ⟨hcolons, -, -⟩ := hv
    rw [splitOn_length, List.count_append, List.count_append]
    omega

/-- an accepted IPv6 literal without a scope id consists of hex digits, colons and dots only — in particular it has no
    brackets (with a scope id, `ipaddress` accepts any text) -/
theorem ipv6_no_brackets (h : Str) (hv : isIPv6 h = true) (hs : '%' ∉ h) :
    (∀ c ∈ h, v6Char c = true) ∧ '[' ∉ h ∧ ']' ∉ h := by
  have key : ∀ c ∈ h, v6Char c = true := by
    unfold isIPv6 at hv
    split at hv
    · simp at hv
    · rw [splitOn_of_not_mem '%' hs] at hv
      exact isIPv6Addr_chars h hv
  exact ⟨key, fun hc => absurd (key _ hc) (by decide), fun hc => absurd (key _ hc) (by decide)⟩

/-- the documented hosts -/
def DocHost (h : Str) : Prop := NameLike h ∨ (isIPv6 h = true ∧ '%' ∉ h)

theorem DocHost.labelable {h : Str} (hh : DocHost h) : Labelable h := by
  rcases hh with hn | ⟨hv, hs⟩
  · exact Or.inl hn
  · exact Or.inr ⟨hv, (ipv6_no_brackets h hv hs).2⟩

/-- for every documented host and every port the text label and the "Starting audit of" label read back as exactly `(h, p)` -/
theorem label_matches_doc (h : Str) (p : Nat) (hp : p < 10 ^ maxStrDigits) (hh : DocHost h) (d : Int) :
    parseHostPort (labelText h p) 22 = .ok (h, (p : Int)) ∧ parseHostPort (labelVerbose h p) d = .ok (h, (p : Int)) :=
  ⟨label_matches h p hp hh.labelable, label_verbose_matches h p hp hh.labelable d⟩

/-- an IPv6 literal is a documented bare spelling of itself -/
theorem spelled_ipv6 (h : Str) (hv : isIPv6 h = true) (hs : '%' ∉ h) : Spelled h h none :=
  Spelled.v6 h ⟨(ipv6_two_colons h hv).1, (ipv6_no_brackets h hv hs).2⟩

/-- the report the tool gives for `(h, p)` when the connection attempt ended with `err` -/
def reportOf (h : Str) (p : Int) (err : Option ConnErr) : Report :=
  { host := h, port := p, text := labelText h p, verbose := labelVerbose h p, json := labelJson h p, err := err }

theorem auditTarget_eq (pref : List Nat) (h : Str) (p : Int) (res : Resolver) (up : AddrInfo → Bool) :
    auditTarget pref h p res up =
      if InRange p then ((dial pref h p res up).1, .ok (reportOf h p (dial pref h p res up).2)) else ([], .error .value) := by
  rw [auditTarget, checkPort_eq]
  by_cases hp : InRange p
  · rw [if_pos hp, if_pos hp]
    rfl
  · rw [if_neg hp, if_neg hp]

/-- for every documented spelling `s` of `(h, e)`, every valid `-p q` (or none) and every `-4`/`-6` combination, if the denoted
    port `p` is in 1..65535: the run resolves exactly `h` with `p` and the recorded family argument, dials at most the first
    address of `_resolve`'s order (`first_only`), and reports on host `h`, port `p` with the labels of `(h, p)` if the
    connection succeeds (it exits with `CONNECTION_ERROR` if not) -/
theorem named_target_dialled (s h : Str) (e : Option Nat) (q : Option Int) (flags : List Nat) (res : Resolver)
    (up : AddrInfo → Bool) (hs : Spelled s h e) (hq : ∀ v, q = some v → InRange v)
    (hp : InRange (portOf e (optDefault q))) :
    let p := portOf e (optDefault q)
    let d := dial (ipPref flags) h p res up
    mainRun (single s q flags) res up =
      (d.1, match d.2 with
            | some _ => .error (.sysExit CONNECTION_ERROR)
            | none => .ok [.ok (reportOf h p none)]) := by
  intro p d
  unfold mainRun
  rw [cmdline_port_default s h e q flags hs hq hp]
  simp only [runConf, Bool.false_eq_true, if_false, List.length_nil, Nat.lt_irrefl, gt_iff_lt]
  rw [auditTarget_eq, if_pos hp]
  simp only [reportOf]
  -- the report says `err := none` exactly when the dial ended without an error
  cases hd : (dial (ipPref flags) h p res up).2 <;> simp [d, p]

/-- an out-of-range port written in the single target is rejected before any name resolution or connection -/
theorem port_range_target (s h : Str) (p : Nat) (q : Option Int) (flags : List Nat) (res : Resolver) (up : AddrInfo → Bool)
    (hs : Spelled s h (some p)) (hq : ∀ v, q = some v → InRange v) (hp : ¬ InRange p) :
    mainRun (single s q flags) res up = ([], .error .value) := by
  unfold mainRun
  rw [cmdline_bad_target_port s h p q flags hs hq hp]

/-- an out-of-range `-p` option is rejected before any name resolution or connection,
    whatever else is on the command line (single target, targets file, client audit) -/
theorem port_range_option (a : Args) (v : Int) (res : Resolver) (up : AddrInfo → Bool) (hq : a.oport = some v) (hv : ¬ InRange v) :
    ∃ e, mainRun a res up = ([], .error e) := by
  obtain ⟨e, he⟩ := cmdline_bad_option a v hq hv
  exact ⟨e, by unfold mainRun; rw [he]⟩

def PortsOK (evs : List Event) : Prop := ∀ ev ∈ evs, ∀ h p f, ev = Event.resolve h p f → InRange p

theorem PortsOK.nil : PortsOK [] := fun _ h => nomatch h

theorem PortsOK.flatten {l : List (List Event)} (h : ∀ evs ∈ l, PortsOK evs) : PortsOK l.flatten := by
  intro ev hev
  obtain ⟨evs, h1, h2⟩ := List.mem_flatten.1 hev
  exact h evs h1 ev h2

theorem dial_portsOK (pref : List Nat) (h : Str) (p : Int) (res : Resolver) (up : AddrInfo → Bool) (hp : InRange p) :
    PortsOK (dial pref h p res up).1 := by
  intro ev hev h' p' f he
  subst he
  rw [first_only, List.mem_cons] at hev
  rcases hev with hev | hev
  · injection hev with _ h2 _; exact h2 ▸ hp
  · split at hev
    · cases hev
    · split at hev <;> simp at hev

theorem auditTarget_portsOK (pref : List Nat) (h : Str) (p : Int) (res : Resolver) (up : AddrInfo → Bool) :
    PortsOK (auditTarget pref h p res up).1 := by
  rw [auditTarget_eq]
  split
  · next hp => exact dial_portsOK pref h p res up hp
  · exact .nil

theorem runConf_portsOK (c : Conf) (res : Resolver) (up : AddrInfo → Bool) : PortsOK (runConf c res up).1 := by
  have key := auditTarget_portsOK c.pref c.host c.port res up
  fun_cases runConf c res up with
  | case1 => exact .nil                  -- client audit
  | case2 => exact .nil                  -- targets file, a target that does not parse
  | case3 _ _ ts _ rs =>                 -- targets file: the events of the workers, each of which is `auditTarget`
    apply PortsOK.flatten
    intro evs hevs
    simp only [rs, List.map_map, List.mem_map, Function.comp] at hevs
    obtain ⟨t, _, rfl⟩ := hevs
    exact worker_eq c.pref res up t ▸ auditTarget_portsOK c.pref t.1 t.2 res up
  | case4 _ _ evs e heq =>               -- single target, port refused
    rw [heq] at key
    exact key
  | case5 _ _ evs r heq =>               -- single target, dialled
    rw [heq] at key
    exact key

/-- whatever the command line and the targets file contain — documented spellings or not — no name resolution is ever
    attempted with a port outside 1..65535 (and every connection is preceded by such a resolution: `first_only`) -/
theorem resolve_port_in_range (a : Args) (res : Resolver) (up : AddrInfo → Bool) :
    ∀ ev ∈ (mainRun a res up).1, ∀ h p f, ev = Event.resolve h p f → InRange p := by
  unfold mainRun
  split
  · exact PortsOK.nil
  · exact runConf_portsOK _ res up

/-- whatever the file contains, every target taken from it is non-empty and has no surrounding white space; in particular
    blank and white-space-only lines produce no target (D19) -/
theorem file_targets_clean (content : Str) : ∀ t ∈ fileTargets content, t ≠ [] ∧ Trimmed t ∧ pyStrip t = t := by
  intro t ht
  simp only [fileTargets, cleanLines, List.mem_map, List.mem_filter] at ht
  obtain ⟨l, ⟨_, hne⟩, rfl⟩ := ht
  have hne' : pyStrip l ≠ [] := by simpa using hne
  exact ⟨hne', trimmed_of_tight (stripBy_tight pySpace l) hne', stripBy_idem pySpace l⟩

/-- a targets file written as lines — each one optional indentation, a target text or nothing, optional trailing blanks, and
    `\n`, `\r\n` or `\r` (the last line possibly unterminated) — yields exactly the non-empty target texts, in order; blank and
    white-space-only lines yield nothing -/
theorem file_targets_of_lines (ls : List (Line × Str)) (last : Line)
    (h : ∀ le ∈ ls, le.1.ok ∧ Eol le.2) (hl : last.ok) :
    fileTargets (render ls last) = (ls.map (·.1.targets)).flatten ++ last.targets := by
  rw [fileTargets_eq]
  induction ls with
  | nil => simpa [render] using targetsFrom_last last hl
  | cons le ls ih =>
    obtain ⟨l, e⟩ := le
    have h1 := h (l, e) (by simp)
    rw [render, targetsFrom_line l e _ h1.1 h1.2, ih (fun x hx => h x (by simp [hx]))]
    simp

/-- `-T file` with optional `-p q` and `-4`/`-6` flags -/
def fromFile (content : Str) (q : Option Int) (flags : List Nat) : Args :=
  { host := [], oport := q, flags := flags, clientAudit := false, targets := some content }

theorem cmdline_file (content : Str) (q : Option Int) (flags : List Nat) (hq : ∀ v, q = some v → InRange v) :
    cmdline (fromFile content q flags) =
      .ok { host := [], port := optDefault q, pref := ipPref flags, clientAudit := false, targetList := fileTargets content } := by
  cases q with
  | none =>
    simp [cmdline, fromFile, cmdTarget, cmdPort, optDefault, checkPort]
  | some v => simp [cmdline, fromFile, cmdTarget, cmdPort, optDefault, checkPort, (inRange_iff v).1 (hq v rfl)]

/-- a line of the file, what it denotes: (text, host, explicit port) -/
abbrev Entry := Str × Str × Option Nat

theorem parseAll_spelled (d : Int) (spec : List Entry) (h : ∀ x ∈ spec, Spelled x.1 x.2.1 x.2.2) :
    parseAll d (spec.map (·.1)) = .ok (spec.map (fun x => (x.2.1, portOf x.2.2 d))) := by
  induction spec with
  | nil => rfl
  | cons x xs ih =>
    simp only [List.map_cons, parseAll]
    rw [parse_forms x.1 x.2.1 x.2.2 d (h x (by simp)), ih (fun y hy => h y (by simp [hy]))]

/-- a target of the targets file whose port is outside 1..65535 is rejected by its worker before any name resolution or
    connection for it -/
theorem port_range_worker (pref : List Nat) (res : Resolver) (up : AddrInfo → Bool) (h : Str) (p : Int) (hp : ¬ InRange p) :
    worker pref res up (h, p) = ([], .error .value) := by
  rw [worker_eq, auditTarget_eq, if_neg hp]

/-- if the file's targets (`file_targets_of_lines`) are documented spellings with valid ports and there is at least one, then —
    with a valid `-p q` as the default port — the run resolves and dials, target by target in file order, exactly the named
    hosts and ports (each as in `first_only`), and the report of each target carries the labels of that target -/
theorem targets_dialled (content : Str) (q : Option Int) (flags : List Nat) (res : Resolver) (up : AddrInfo → Bool)
    (spec : List Entry) (hne : spec ≠ []) (hq : ∀ v, q = some v → InRange v)
    (hfile : fileTargets content = spec.map (·.1))
    (hs : ∀ x ∈ spec, Spelled x.1 x.2.1 x.2.2) (hp : ∀ x ∈ spec, InRange (portOf x.2.2 (optDefault q))) :
    mainRun (fromFile content q flags) res up =
      ((spec.map (fun x => (dial (ipPref flags) x.2.1 (portOf x.2.2 (optDefault q)) res up).1)).flatten,
       .ok (spec.map (fun x => .ok (reportOf x.2.1 (portOf x.2.2 (optDefault q))
                                     (dial (ipPref flags) x.2.1 (portOf x.2.2 (optDefault q)) res up).2)))) := by
  have hlen : (spec.map (·.1)).length > 0 := by
    cases spec with
    | nil => exact absurd rfl hne
    | cons _ _ => simp
  have hw : (spec.map (fun x => (x.2.1, portOf x.2.2 (optDefault q)))).map (worker (ipPref flags) res up) =
      spec.map (fun x => ((dial (ipPref flags) x.2.1 (portOf x.2.2 (optDefault q)) res up).1,
        .ok (reportOf x.2.1 (portOf x.2.2 (optDefault q)) (dial (ipPref flags) x.2.1 (portOf x.2.2 (optDefault q)) res up).2))) := by
    rw [List.map_map]
    exact List.map_congr_left fun x hx => by
      simp only [Function.comp, worker_eq, auditTarget_eq, if_pos (hp x hx)]
  unfold mainRun
  rw [cmdline_file content q flags hq]
  simp only [runConf, Bool.false_eq_true, if_false, hfile, hlen, if_true, parseAll_spelled (optDefault q) spec hs, hw,
    List.map_map, Function.comp_def]

/-- the D33 witness, end to end: `-64 dual.example` with a resolver answer of one IPv4 and
    one IPv6 address dials the IPv6 address -/
theorem prefer_v6_dials_v6 :
    (mainRun (single "dual.example".toList none [6, 4])
      (fun _ p _ => some [⟨AF_INET, SOCK_STREAM, "10.0.0.4".toList, p⟩, ⟨AF_INET6, SOCK_STREAM, "2001:db8::6".toList, p⟩])
      (fun _ => true)).1
    = [.resolve "dual.example".toList 22 0, .connect AF_INET6 "2001:db8::6".toList 22] := by
  decode_literals
  decide +kernel

example : (mainRun (single "h:2222".toList none [4, 6])
      (fun _ p _ => some [⟨AF_INET6, SOCK_STREAM, "::2".toList, p⟩, ⟨AF_INET, SOCK_STREAM, "1.1.1.1".toList, p⟩])
      (fun _ => true)).1
    = [.resolve "h".toList 2222 0, .connect AF_INET "1.1.1.1".toList 2222] := by
  decode_literals
  decide +kernel
example : (mainRun (fromFile "a\n\n[::1]:99999\nb:23\n".toList (some 2222) [6])
      (fun h p _ => some [⟨AF_INET6, SOCK_STREAM, h, p⟩]) (fun _ => true)).1
    = [.resolve "a".toList 2222 AF_INET6, .connect AF_INET6 "a".toList 2222,
       .resolve "b".toList 23 AF_INET6, .connect AF_INET6 "b".toList 23] := by
  decode_literals
  decide +kernel

example : parseHostPort "example.com".toList 22 = .ok ("example.com".toList, 22) := by
  decode_literals
  decide +kernel
example : parseHostPort "10.0.0.1:2222".toList 22 = .ok ("10.0.0.1".toList, 2222) := by
  decode_literals
  decide +kernel
example : parseHostPort "::1".toList 22 = .ok ("::1".toList, 22) := by
  decode_literals
  decide +kernel
example : parseHostPort "[2001:db8::1]:2222".toList 22 = .ok ("2001:db8::1".toList, 2222) := by
  decode_literals
  decide +kernel
example : parseHostPort "[::1]".toList 2222 = .ok ("::1".toList, 2222) := by
  decode_literals
  decide +kernel
example : parseHostPort "h:abc".toList 22 = .error .value := by
  decode_literals
  decide +kernel
example : cmdline (single "[::1]".toList (some 2222) []) =
    .ok { host := "::1".toList, port := 2222, pref := [], clientAudit := false, targetList := [] } := by
  decode_literals
  decide +kernel
example : cmdline (single "10.0.0.1:22".toList (some 2222) [6, 4]) =
    .ok { host := "10.0.0.1".toList, port := 22, pref := [6, 4], clientAudit := false, targetList := [] } := by
  decode_literals
  decide +kernel
example : cmdline (single "h:65536".toList none []) = .error .value := by
  decode_literals
  decide +kernel
example : cmdline (single "h".toList (some 0) []) = .error (.sysExit (-1)) := by
  decode_literals
  decide +kernel
example : fileTargets "a\n \t \r\n  b:22  \rc".toList = ["a".toList, "b:22".toList, "c".toList] := by
  decode_literals
  decide +kernel
example : isIPv6 "2001:db8::1".toList = true ∧ isIPv6 "::ffff:192.0.2.1".toList = true ∧ isIPv6 "fe80::1%eth0".toList = true
    ∧ isIPv6 "1::2::3".toList = false ∧ isIPv6 "10.0.0.1".toList = false := by
  decode_literals
  decide +kernel
example : Spelled "[::1]:22".toList "::1".toList (some 22) := by
  decode_literals
  exact Spelled.v6BracketPort [':', ':', '1'] ['2', '2'] ⟨by decide, by decide, by decide⟩ ⟨by decide, by decide, by decide⟩
example : labelText "::1".toList 2222 = "[::1]:2222".toList ∧ labelText "h".toList 22 = "h".toList
    ∧ labelJson "::1".toList 2222 = "::1:2222".toList := by
  decode_literals
  decide +kernel

end SshAudit.C18
