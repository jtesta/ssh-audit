/-
  C03 — An algorithm's rating depends only on the algorithm, in every view.

  `Report.algTexts db cat name` is the note list `output_algorithm` shows; the theorems say the
  notes of a line are a function of (database state, category, name) only — the database state
  being the master table plus the documented measured attributes (sizes, Terrapin context) —
  that gss names rate as their wildcard entry, that unknown names are always flagged, and that
  the JSON failure and warning notes are the text report's (the informational ones: `C15.json_info_perm_text`, up to order).
-/
import SshAudit.Lemmas.Report
namespace SshAudit.C03
open SshAudit SshAudit.Report

/-- the lines of a list are the lines of its parts: a name's line does not depend on its neighbours or its position -/
theorem notes_local (rf : List Str) (db : DB) (cat : Str) (xs ys : List Str) (n : Str) (hk : List (Str × HostKeyInfo)) (dh : List (Str × Nat)) :
    algLines rf db cat (xs ++ n :: ys) hk dh =
      algLines rf db cat xs hk dh ++ algLines rf db cat [n] hk dh ++ algLines rf db cat ys hk dh := by
  rw [algLines_append, algLines_cons, List.append_assoc]

/-- …and that line's notes are `algTexts db cat n`: no position, neighbour, role or output option enters -/
theorem line_notes (rf : List Str) (db : DB) (cat n : Str) (hk : List (Str × HostKeyInfo)) (dh : List (Str × Nat)) :
    (algLines rf db cat [n] hk dh).map (fun l => (l.notes, l.unknown)) = (algTexts db cat n).toList := by
  rw [algLines_single]
  cases algTexts db cat n with
  | none => rfl
  | some v => obtain ⟨ts, unk⟩ := v; rfl

/-- the size maps only change the *shown name*, never the notes -/
theorem notes_independent_of_sizes (rf : List Str) (db : DB) (cat : Str) (ns : List Str)
    (hk hk' : List (Str × HostKeyInfo)) (dh dh' : List (Str × Nat)) :
    (algLines rf db cat ns hk dh).map (·.notes) = (algLines rf db cat ns hk' dh').map (·.notes) := by
  simp only [algLines, List.map_filterMap, Option.map_map]
  rfl

/-- every `gss-<method>-<suffix>` key exchange (suffix of any length without `-`)
    is rated exactly as the database's `gss-<method>-*` entry. -/
theorem gss_wildcard (db : DB) (p sfx : Str) (h : '-' ∉ sfx) :
    algTexts db kexC (s "gss-" ++ p ++ '-' :: sfx) = algTexts db kexC (s "gss-" ++ p ++ s "-*") := by
  have h2 : s "-*" = '-' :: ['*'] := rfl
  unfold algTexts
  rw [gssNormalize_gss p sfx h, h2, gssNormalize_gss p ['*'] (by decide), h2]

/-- **Unknown names are always flagged** (text: a warning "unknown algorithm"; never an info-only line) -/
theorem unknown_flagged (db : DB) (cat n : Str) (hp : printed cat n = true) (hu : DBm.lookup db cat (gssNormalize cat n) = none) :
    algTexts db cat n = some ([unknownNote], true) :=
  algTexts_eq_some_iff.mpr ⟨hp, .inl ⟨hu, rfl⟩⟩

/-- JSON: an unknown name gets exactly the one failure note it is given (`fu`; the driver passes `Gen.failUnknown`) -/
theorem unknown_flagged_json (db : DB) (fu : Str) (cat n : Str) (hu : DBm.lookup db cat (gssNormalize cat n) = none) :
    jsonNotes db fu cat n = { fail := some [some fu], warn := none, info := none } := by
  unfold jsonNotes; simp only; rw [hu]

/-- conversely a known name is never reported as unknown -/
theorem known_not_unknown (db : DB) (cat n : Str) (e : Entry) (hp : printed cat n = true) (hl : DBm.lookup db cat (gssNormalize cat n) = some e) :
    algTexts db cat n = some (entryTexts e, false) :=
  algTexts_eq_some_iff.mpr ⟨hp, .inr ⟨e, hl, rfl⟩⟩

def textsAt (e : Entry) (lvl : Level) : List Str := ((entryTexts e).filter (·.level = lvl)).map (·.text)

/-- a line with nothing to say shows the empty `info` note; at `fail` and `warn` it shows nothing, like its empty slots -/
theorem textsAt_of_ne_info (e : Entry) (lvl : Level) (h : lvl ≠ .info) : textsAt e lvl = ((rawTexts e).filter (·.level = lvl)).map (·.text) := by
  unfold textsAt entryTexts
  split
  · next he =>
    rw [List.isEmpty_iff.mp he]
    simpa using Ne.symm h
  · rfl

theorem textsAt_fail (e : Entry) : textsAt e .fail = (DBm.slot e 1).filterMap id := by
  rw [textsAt_of_ne_info e .fail (by decide), rawTexts_at]

theorem textsAt_warn (e : Entry) : textsAt e .warn = (DBm.slot e 2).filterMap id := by
  rw [textsAt_of_ne_info e .warn (by decide), rawTexts_at]

/-- **JSON failure notes = text failure notes; JSON warning notes = text warning notes**, for every name the database knows
    (exact lists, in order; `null` entries skipped on both sides) -/
theorem json_eq_text_fail_warn (db : DB) (fu : Str) (cat n : Str) (e : Entry) (hl : DBm.lookup db cat (gssNormalize cat n) = some e) :
    ((jsonNotes db fu cat n).fail.getD []).filterMap id = textsAt e .fail ∧
    ((jsonNotes db fu cat n).warn.getD []).filterMap id = textsAt e .warn := by
  unfold jsonNotes
  simp only [hl]
  rw [textsAt_fail, textsAt_warn]
  exact ⟨slot_json e 1, slot_json e 2⟩

example : gssNormalize kexC (s "gss-group14-sha256-toWM5Slw5Ew8Mqkay+al2g==") = s "gss-group14-sha256-*" := by
  unfold s
  decode_literals
  decide +kernel
example : gssNormalize encC (s "gss-x-y") = s "gss-x-y" := by decide +kernel

end SshAudit.C03
