/-
  C15 — Output options change presentation only, never findings or verdict.

  About `OutputBuffer` and the call sequence of `ssh_audit.output()` for an SSH-2 peer.  The report data comes from `Report.report`, which
  takes no output option; the run of the buffer has a closed form (`render_eq_closed`), and every statement below is read off it.
  Known deviations are negations with witnesses: D32-empty (nothing of the report left at the level: one blank line), D05 (error text after the
  JSON document).  The model follows /repo: a filtered verbose message is not flushed as a blank line (D32), `-v -j` prints no text before the
  document (C15-VJ).
-/
import SshAudit.Lemmas.Output
import SshAudit.Lemmas.Report
namespace SshAudit.C15
open SshAudit SshAudit.Report SshAudit.Output

/-- **`output()` never trips the buffer** (no IndexError from `line_ended`, section closed, line ended) and leaves exactly the closed form,
    whatever was written to stdout before. -/
theorem output_runs_clean (cfg : Cfg) (inp : Input) (o : List (List Str)) :
    exec cfg (outputOps cfg inp) ⟨[], [], false, true, o, none⟩ = ⟨renderClosed cfg inp, [], false, true, o, none⟩ :=
  exec_output cfg inp o

theorem render_eq_closed (cfg : Cfg) (inp : Input) : render cfg inp = renderClosed cfg inp := by
  rw [render, empty_quiet, exec_output, entries_quiet]

theorem render_text (cfg : Cfg) (hj : cfg.json = false) (inp : Input) :
    render cfg inp = (sections cfg inp).flatMap (renderSec cfg) ++ renderTail cfg inp := by
  rw [render_eq_closed, renderClosed, hj]
  rfl

/-- **JSON mode prints exactly one entry — the document — at every minimum level**, whatever batch / verbose / colours are
    (D14: the document is emitted with `always_print=True`; the text sections never reach the buffer). -/
theorem json_once (cfg : Cfg) (hj : cfg.json = true) (inp : Input) : render cfg inp = [jsonDoc cfg inp] := by
  rw [render_eq_closed, renderClosed, if_pos hj]

/-- stdout of a completed audit: one write per verbose message, then one write with the report -/
theorem stdout_eq (cfg : Cfg) (vmsgs : List Str) (inp : Input) : stdoutOf cfg vmsgs inp = vWrites cfg vmsgs ++ [renderClosed cfg inp] := by
  rw [stdoutOf, auditOps, empty_quiet, exec_append, exec_append, exec_vmsgs, exec_output,
    exec_write_quiet]
  exact congrArg (· ++ _) (List.nil_append _)

/-- the exit status is the report's: no option is consulted (the report itself takes none: `C02.report_status`) -/
theorem status_cfg_free (cfg cfg' : Cfg) (inp : Input) : exitStatus cfg inp = exitStatus cfg' inp := rfl

def atLevel (cfg : Cfg) (L : Nat) : Cfg := { cfg with level := L }

/-- which calls `output()` makes does not depend on the level -/
theorem sections_level_free (cfg : Cfg) (L : Nat) (inp : Input) : sections (atLevel cfg L) inp = sections cfg inp := rfl

def paintIt (colors : Bool) (it : Item) : Item := { it with text := paint colors it.meth it.text }

/-- every line of one section at level `info`, together with the method that printed it
    (header: `head`; separator: `info` with empty text) -/
def secLines (cfg : Cfg) (sc : Sec) : List Item :=
  if sc.items.isEmpty then []
  else
    (if cfg.batch then [] else [{ meth := .head, text := paint cfg.colors .head sc.title }]) ++
    (if sc.sort then (sc.items.map (paintIt cfg.colors)).mergeSort (fun a b => leStr a.text b.text) else sc.items.map (paintIt cfg.colors)) ++
    (if cfg.batch then [] else [{ meth := .info, text := [] }])

def tailLines (cfg : Cfg) (inp : Input) : List Item :=
  if inp.report.unknown.length > 0 then [{ meth := .warn, text := paint cfg.colors .warn (unknownText inp.report.unknown) }] else []

theorem filter_paintIt (L : Nat) (c : Bool) (items : List Item) :
    (((items.map (paintIt c)).filter (keep L)).map (·.text)) = (items.filter (keep L)).map (fun it => paint c it.meth it.text) := by
  rw [List.filter_map, List.map_map]
  rfl

theorem bodyOf_atLevel (cfg : Cfg) (L : Nat) (items : List Item) :
    bodyOf (atLevel cfg L) items = (items.filter (keep L)).map (fun it => paint cfg.colors it.meth it.text) := rfl

/-- **Level filter, section by section (all lines, headers and separators included).**  At minimum level `L` a section
    shows exactly those of its info-level lines whose method passes `L` (or that were printed with `always_print`) — texts
    unaltered, order unaltered, the sorted section still sorted — and nothing at all once none of its items passes. -/
theorem level_filter_section (cfg : Cfg) (L : Nat) (sc : Sec) :
    renderSec (atLevel cfg L) sc =
      if (sc.items.filter (keep L)).isEmpty then [] else ((secLines cfg sc).filter (keep L)).map (·.text) := by
  rw [renderSec_eq, closeLines, bodyOf_atLevel, List.isEmpty_map]
  split
  · rfl
  · next he =>
    have h2 : ¬ sc.items.isEmpty = true := fun h => he (by rw [List.isEmpty_iff.mp h]; rfl)
    rw [secLines, if_neg h2, List.filter_append, List.filter_append, List.map_append, List.map_append]
    show (if cfg.batch = true then [] else [paint cfg.colors .head sc.title]) ++ _ ++
      (if (cfg.batch || !passes L .info false) = true then [] else [[]]) = _
    congr 1
    · congr 1
      · -- the header is never filtered
        cases cfg.batch <;> rfl
      · cases sc.sort
        · exact (filter_paintIt L cfg.colors sc.items).symm
        · rw [if_pos rfl, if_pos rfl, sort_filter_map (fun it : Item => it.text) (keep L) (sc.items.map (paintIt cfg.colors)), filter_paintIt]
    · -- the separator is an `info` line
      cases cfg.batch
      · cases hp : passes L .info false <;> simp [keep, hp]
      · rfl

theorem secLines_zero (cfg : Cfg) (sc : Sec) :
    (if (sc.items.filter (keep 0)).isEmpty then [] else (secLines cfg sc).filter (keep 0)) = secLines cfg sc := by
  rw [filter_keep_zero _, filter_keep_zero _]
  split
  · next he => rw [secLines, if_pos he]
  · rfl

theorem section_at_info (cfg : Cfg) (sc : Sec) : renderSec (atLevel cfg 0) sc = (secLines cfg sc).map (·.text) := by
  have h := congrArg (List.map (·.text)) (secLines_zero cfg sc)
  rwa [apply_ite (List.map _), List.map_nil, ← level_filter_section] at h

def levelLines (cfg : Cfg) (L : Nat) (inp : Input) : List Item :=
  (sections cfg inp).flatMap (fun sc => if (sc.items.filter (keep L)).isEmpty then [] else (secLines cfg sc).filter (keep L)) ++
  (tailLines cfg inp).filter (keep L)

def infoLines (cfg : Cfg) (inp : Input) : List Item := (sections cfg inp).flatMap (secLines cfg) ++ tailLines cfg inp

theorem renderTail_atLevel (cfg : Cfg) (L : Nat) (inp : Input) :
    renderTail (atLevel cfg L) inp = ((tailLines cfg inp).filter (keep L)).map (·.text) := by
  have ht : tailLines cfg inp = (tailItems inp).map (paintIt cfg.colors) := by
    unfold tailLines tailItems; split <;> rfl
  rw [renderTail_eq, bodyOf_atLevel, ht, filter_paintIt]

/-- **Level filter, whole report** (text mode): per section the filter image of
    the info-level lines, or nothing when the section has no item left. -/
theorem level_filter (cfg : Cfg) (hj : cfg.json = false) (L : Nat) (inp : Input) :
    render (atLevel cfg L) inp = (levelLines cfg L inp).map (·.text) := by
  rw [render_text (atLevel cfg L) hj, sections_level_free, levelLines, List.map_append, List.map_flatMap, renderTail_atLevel]
  refine congrArg (· ++ _) (Text.flatMap_eq _ _ _ fun sc _ => ?_)
  rw [level_filter_section, apply_ite (List.map _)]
  rfl

theorem levelLines_zero (cfg : Cfg) (inp : Input) : levelLines cfg 0 inp = infoLines cfg inp := by
  rw [levelLines, infoLines, filter_keep_zero _, Text.flatMap_eq _ _ _ fun sc _ => secLines_zero cfg sc]

theorem render_at_info (cfg : Cfg) (hj : cfg.json = false) (inp : Input) :
    render (atLevel cfg 0) inp = (infoLines cfg inp).map (·.text) := by
  rw [level_filter cfg hj, levelLines_zero]

theorem levelLines_mono (cfg : Cfg) {L L' : Nat} (h : L ≤ L') (inp : Input) : (levelLines cfg L' inp).Sublist (levelLines cfg L inp) := by
  unfold levelLines
  refine List.Sublist.append (Text.flatMap_rel List.Sublist .slnil (fun _ _ _ _ => .append) _ _ _ fun sc _ => ?_) ?_
  · by_cases he : (sc.items.filter (keep L')).isEmpty = true
    · rw [if_pos he]; exact List.nil_sublist _
    · -- something of the section passes `L'`, hence `L`
      have he' : ¬ (sc.items.filter (keep L)).isEmpty = true := by
        rw [filter_keep_mono h] at he
        intro h0; rw [List.isEmpty_iff.mp h0] at he; exact he rfl
      rw [if_neg he, if_neg he', filter_keep_mono h]
      exact List.filter_sublist
  · rw [filter_keep_mono h]
    exact List.filter_sublist

theorem level_monotone (cfg : Cfg) {L L' : Nat} (h : L ≤ L') (inp : Input) :
    (render (atLevel cfg L') inp).Sublist (render (atLevel cfg L) inp) := by
  cases hj : cfg.json
  · rw [level_filter cfg hj, level_filter cfg hj]
    exact (levelLines_mono cfg h inp).map _
  · rw [json_once (atLevel cfg L') hj, json_once (atLevel cfg L) hj]
    exact List.Sublist.refl _

/-- **Raising the minimum level only deletes lines; it never adds or alters one** (JSON mode included).  Between any two levels:
    `level_monotone`. -/
theorem level_only_deletes (cfg : Cfg) (L : Nat) (inp : Input) :
    (render (atLevel cfg L) inp).Sublist (render (atLevel cfg 0) inp) :=
  level_monotone cfg (Nat.zero_le L) inp

/-- every line kept at level `L` was printed by a method that passes `L` (or with `always_print`) -/
theorem level_lines_pass (cfg : Cfg) (L : Nat) (inp : Input) : ∀ it ∈ levelLines cfg L inp, keep L it = true := by
  intro it hit
  simp only [levelLines, List.mem_append, List.mem_flatMap, List.mem_ite_nil_left, List.mem_filter] at hit
  rcases hit with ⟨_, _, _, _, hk⟩ | ⟨_, hk⟩
  · exact hk
  · exact hk

/-- the line is an item, or the separator — which passes at level `info` only, where every item passes -/
theorem section_keeps (cfg : Cfg) (L : Nat) (sc : Sec) (it : Item) (hit : it ∈ secLines cfg sc) (hk : keep L it = true)
    (hm : it.meth ≠ .head) : (sc.items.filter (keep L)).isEmpty = false := by
  simp only [secLines, List.mem_ite_nil_left, List.mem_append, List.mem_singleton] at hit
  obtain ⟨hne, (hhead | hbody) | hsep⟩ := hit
  · -- the header: excluded by `hm`
    exact absurd (hhead.2 ▸ rfl) hm
  · -- an item of the body, sorted or not: it passes itself
    have hb' : it ∈ sc.items.map (paintIt cfg.colors) := by
      split at hbody
      · exact List.mem_mergeSort.mp hbody
      · exact hbody
    obtain ⟨it0, hit0, rfl⟩ := List.mem_map.mp hb'
    exact List.isEmpty_eq_false_iff.mpr (List.ne_nil_of_mem (List.mem_filter.mpr ⟨hit0, hk⟩))
  · -- the separator: it passes at level 0 only, where every item passes
    rw [hsep.2] at hk
    rw [(keep_sep_iff L).mp hk, filter_keep_zero _]
    exact Bool.eq_false_iff.mpr hne

/-- no item line that passes the level is lost: every non-header line of the info-level report that passes `L` is in the level-`L` report -/
theorem level_keeps_passing (cfg : Cfg) (L : Nat) (inp : Input) (it : Item) (hi : it ∈ infoLines cfg inp) (hk : keep L it = true)
    (hm : it.meth ≠ .head) : it ∈ levelLines cfg L inp := by
  simp only [infoLines, levelLines, List.mem_append, List.mem_flatMap, List.mem_ite_nil_left, List.mem_filter] at hi ⊢
  rcases hi with ⟨sc, hsc, hit⟩ | h
  · exact .inl ⟨sc, hsc, by rw [section_keeps cfg L sc it hit hk hm]; exact Bool.false_ne_true, hit, hk⟩
  · exact .inr ⟨h, hk⟩

def nonBlank (l : List Str) : List Str := l.filter (fun t => !t.isEmpty)

/-- the verbose messages at a level are those of any lower level, or none (a message the level drops is not flushed: D32) -/
theorem vWrites_mono (cfg : Cfg) {L L' : Nat} (h : L ≤ L') (vmsgs : List Str) :
    (outEntries (vWrites (atLevel cfg L') vmsgs)).Sublist (outEntries (vWrites (atLevel cfg L) vmsgs)) := by
  have hv : ∀ K, vWrites (atLevel cfg K) vmsgs =
      if ((cfg.verbose && !cfg.json) || cfg.debug) && passes K .info false then vmsgs.map (fun m => [m]) else [] := fun _ => rfl
  rw [hv L, hv L']
  cases hp : passes L' .info false
  · rw [Bool.and_false, if_neg Bool.false_ne_true]
    exact List.nil_sublist _
  · rw [show passes L .info false = true from keep_mono h ⟨.info, [], false⟩ hp]
    exact List.Sublist.refl _

theorem outEntries_stdout (cfg : Cfg) (vmsgs : List Str) (inp : Input) :
    outEntries (stdoutOf cfg vmsgs inp) =
      outEntries (vWrites cfg vmsgs) ++ (if (render cfg inp).isEmpty then [[]] else render cfg inp) := by
  rw [stdout_eq, render_eq_closed]
  simp [outEntries]

theorem nonBlank_stdout (cfg : Cfg) (vmsgs : List Str) (inp : Input) :
    nonBlank (outEntries (stdoutOf cfg vmsgs inp)) = nonBlank (outEntries (vWrites cfg vmsgs)) ++ nonBlank (render cfg inp) := by
  rw [outEntries_stdout, nonBlank, List.filter_append]
  split
  · next h => rw [List.isEmpty_iff.mp h]; rfl
  · rfl

theorem stdout_nonblank_mono (cfg : Cfg) {L L' : Nat} (h : L ≤ L') (vmsgs : List Str) (inp : Input) :
    (nonBlank (outEntries (stdoutOf (atLevel cfg L') vmsgs inp))).Sublist (nonBlank (outEntries (stdoutOf (atLevel cfg L) vmsgs inp))) := by
  rw [nonBlank_stdout, nonBlank_stdout]
  exact ((vWrites_mono cfg h vmsgs).filter _).append ((level_monotone cfg h inp).filter _)

/-- **On non-blank lines** raising the level only deletes lines of stdout, verbose messages included.  Between any two levels:
    `stdout_nonblank_mono`. -/
theorem stdout_nonblank_only_deletes (cfg : Cfg) (L : Nat) (vmsgs : List Str) (inp : Input) :
    (nonBlank (outEntries (stdoutOf (atLevel cfg L) vmsgs inp))).Sublist (nonBlank (outEntries (stdoutOf (atLevel cfg 0) vmsgs inp))) :=
  stdout_nonblank_mono cfg (Nat.zero_le L) vmsgs inp

theorem stdout_mono (cfg : Cfg) {L L' : Nat} (h : L ≤ L') (vmsgs : List Str) (inp : Input) (hne : render (atLevel cfg L') inp ≠ []) :
    (outEntries (stdoutOf (atLevel cfg L') vmsgs inp)).Sublist (outEntries (stdoutOf (atLevel cfg L) vmsgs inp)) := by
  have hr := level_monotone cfg h inp
  have hne0 : render (atLevel cfg L) inp ≠ [] := fun h0 => hne (List.sublist_nil.mp (h0 ▸ hr))
  rw [outEntries_stdout, outEntries_stdout, if_neg (mt List.isEmpty_iff.mp hne), if_neg (mt List.isEmpty_iff.mp hne0)]
  exact (vWrites_mono cfg h vmsgs).append hr

/-- **On all lines of stdout** — verbose and debug messages included — raising the level only deletes lines, whenever something of the
    report is left at that level (D32).  Between any two levels: `stdout_mono`. -/
theorem stdout_only_deletes (cfg : Cfg) (L : Nat) (vmsgs : List Str) (inp : Input) (hne : render (atLevel cfg L) inp ≠ []) :
    (outEntries (stdoutOf (atLevel cfg L) vmsgs inp)).Sublist (outEntries (stdoutOf (atLevel cfg 0) vmsgs inp)) :=
  stdout_mono cfg (Nat.zero_le L) vmsgs inp hne

/-- a peer with one warning and nothing else -/
def warnOnlyReport : Report.Report :=
  { kex := [{ cat := kexC, name := s "k", shown := s "k", notes := [{ level := .warn, text := s "w" }], unknown := false }],
    key := [], enc := [], mac := [], status := 2, compression := [], recs := [], notes := [], unknown := [] }

/-- the D32 witness: `-b -v -l warn` — no blank line in stdout -/
theorem d32_repaired :
    ([] : Str) ∉ outEntries (stdoutOf (atLevel { batch := true, verbose := true } 1) [s "Starting audit of h:22..."] { report := warnOnlyReport }) := by
  rw [stdout_eq]
  decide

/-- **D32-empty (known finding):** when nothing of the report reaches the level, `main()`'s final `write()` prints the empty buffer as
    one blank line (`-b -l fail` on a peer with warnings only); the info-level batch output has no blank line. -/
theorem empty_report_blank_line :
    outEntries (stdoutOf (atLevel { batch := true } 2) [] { report := warnOnlyReport }) = [[]] ∧
    ([] : Str) ∉ outEntries (stdoutOf (atLevel { batch := true } 0) [] { report := warnOnlyReport }) := by
  rw [stdout_eq, stdout_eq]
  decide +kernel

/-- … hence without the non-emptiness hypothesis the all-lines statement is false -/
theorem stdout_all_lines_false :
    ¬ (∀ (cfg : Cfg) (L : Nat) (vmsgs : List Str) (inp : Input),
        (outEntries (stdoutOf (atLevel cfg L) vmsgs inp)).Sublist (outEntries (stdoutOf (atLevel cfg 0) vmsgs inp))) := by
  intro h
  have hs := h { batch := true } 2 [] { report := warnOnlyReport }
  have hw := empty_report_blank_line
  exact hw.2 (hs.subset (by rw [hw.1]; simp))

/-- what the property counts: the finding and the method that prints it (its filter level and colour) -/
def key (p : Finding × Item) : Finding × Meth := (p.1, p.2.meth)

def keyOf (l : AlgLine) (n : Note) : Finding × Meth := (findingOf l n, if useGood l then .good else methOf n.level)

/-- the findings one algorithm line shows, as a function of `verbose` alone -/
def lineKeys (verbose : Bool) (l : AlgLine) : List (Finding × Meth) :=
  match l.notes with
  | [] => []
  | n :: rest => keyOf l n :: (rest.filter (fun m => verbose || !m.text.isEmpty)).map (keyOf l)

theorem notePair_key (cfg : Cfg) (inp : Input) (l : AlgLine) (first : Bool) (n : Note) :
    (notePair cfg inp l first n).map key = if first || cfg.verbose || !n.text.isEmpty then [keyOf l n] else [] := by
  unfold notePair noteLine
  cases first <;> cases cfg.verbose <;> cases n.text <;> rfl

theorem algPairs_key (cfg : Cfg) (inp : Input) (l : AlgLine) : (algPairs cfg inp l).map key = lineKeys cfg.verbose l := by
  unfold algPairs lineKeys
  cases l.notes with
  | nil => rfl
  | cons n rest =>
    simp only [List.map_append, notePair_key, Bool.true_or, if_true, List.singleton_append]
    congr 1
    induction rest with
    | nil => rfl
    | cons m ms ih =>
      rw [List.flatMap_cons, List.map_append, ih, notePair_key, Bool.false_or, List.filter_cons]
      cases (cfg.verbose || !m.text.isEmpty) <;> rfl

/-- **The findings shown, each with the method that prints it, are a function of the report and of `verbose` only**:
    batch, colours, the minimum level, JSON flags and the padding width play no role. -/
theorem findings_cfg_free (cfg cfg' : Cfg) (hv : cfg.verbose = cfg'.verbose) (inp : Input) :
    (shownPairs cfg inp).map key = (shownPairs cfg' inp).map key := by
  unfold shownPairs
  simp only [List.map_flatMap, algPairs_key, hv]

theorem batch_same_findings (cfg : Cfg) (b : Bool) (inp : Input) :
    (shownPairs { cfg with batch := b } inp).map key = (shownPairs cfg inp).map key := findings_cfg_free { cfg with batch := b } cfg rfl inp

theorem colour_same_findings (cfg : Cfg) (c : Bool) (inp : Input) :
    (shownPairs { cfg with colors := c } inp).map key = (shownPairs cfg inp).map key := findings_cfg_free { cfg with colors := c } cfg rfl inp

/-- later notes of a line all carry text: a hypothesis of `verbose_same_findings`, discharged nowhere (a database entry with an empty
    text in a later slot would break it) -/
def LaterNotesNonEmpty (l : AlgLine) : Prop := ∀ n ∈ l.notes.tail, n.text ≠ []

theorem lineKeys_all (v : Bool) (l : AlgLine) (h : LaterNotesNonEmpty l) : lineKeys v l = l.notes.map (keyOf l) := by
  unfold lineKeys
  unfold LaterNotesNonEmpty at h
  cases hn : l.notes with
  | nil => rfl
  | cons n rest =>
    rw [hn] at h
    have hf : rest.filter (fun m => v || !m.text.isEmpty) = rest :=
      List.filter_eq_self.mpr fun a ha => by rw [List.isEmpty_eq_false_iff.mpr (h a ha)]; simp
    show keyOf l n :: (rest.filter _).map (keyOf l) = _
    rw [hf]
    rfl

/-- **Verbose mode shows the same findings**: under every option set the findings shown are all findings of the report, in report order
    (verbose repeats the full line per note, non-verbose uses the continuation form). -/
theorem verbose_same_findings (cfg : Cfg) (inp : Input)
    (h : ∀ l ∈ inp.report.kex ++ inp.report.key ++ inp.report.enc ++ inp.report.mac, LaterNotesNonEmpty l) :
    (shownPairs cfg inp).map (·.1) = findingsOf inp.report := by
  have hk : (shownPairs cfg inp).map (·.1) = ((shownPairs cfg inp).map key).map (·.1) := by simp [key]
  rw [hk]
  unfold shownPairs findingsOf
  simp only [List.map_flatMap, algPairs_key]
  refine Text.flatMap_eq _ _ _ fun l hl => ?_
  rw [lineKeys_all cfg.verbose l (h l hl)]
  simp [keyOf]

/-- "first note `info` ⇒ all notes `info`" — the order in which `output_algorithm` collects notes (failures, warnings, infos) guarantees it -/
def InfoFirstAllInfo (l : AlgLine) : Prop := ∀ n0 rest, l.notes = n0 :: rest → n0.level = .info → ∀ n ∈ rest, n.level = .info

theorem getLevel_methOf (lv : Level) : getLevel (methOf lv) = some (match lv with | .info => 0 | .warn => 1 | .fail => 2) := by
  cases lv <;> rfl

theorem mem_notePair (cfg : Cfg) (inp : Input) (l : AlgLine) (first : Bool) (n : Note) (p : Finding × Item) (h : p ∈ notePair cfg inp l first n) :
    p.1 = findingOf l n ∧ p.2.meth = (if useGood l then .good else methOf n.level) ∧
    (p.2.text = algLead l ++ (if n.text ≠ [] then algPad cfg inp l ++ s " -- " ++ tagText n else []) ∨
     (n.text ≠ [] ∧ cfg.verbose = false ∧ p.2.text = spaces (algLead l).length ++ algPad cfg inp l ++ s " `- " ++ tagText n)) := by
  revert h
  unfold notePair
  fun_cases noteLine cfg.verbose (algLead l) (algPad cfg inp l) first n with
  | case1 =>
    -- the first note of the line, or verbose mode: the full form
    intro h
    rw [List.mem_singleton.mp h]
    exact ⟨rfl, rfl, .inl rfl⟩
  | case2 h1 h2 =>
    -- a later note with text, not verbose: the continuation form
    intro h
    have hv : first = false ∧ cfg.verbose = false := by simpa using h1
    rw [List.mem_singleton.mp h]
    exact ⟨rfl, rfl, .inr ⟨h2, hv.2, rfl⟩⟩
  | case3 => nofun

theorem mem_algPairs (cfg : Cfg) (inp : Input) (l : AlgLine) (p : Finding × Item) (h : p ∈ algPairs cfg inp l) :
    ∃ first, ∃ n ∈ l.notes, p ∈ notePair cfg inp l first n := by
  unfold algPairs at h
  cases hn : l.notes with
  | nil => rw [hn] at h; cases h
  | cons n0 rest =>
    rw [hn] at h
    rcases List.mem_append.mp h with h | h
    · exact ⟨true, n0, List.mem_cons_self, h⟩
    · obtain ⟨n, hm, hp⟩ := List.mem_flatMap.mp h
      exact ⟨false, n, List.mem_cons_of_mem n0 hm, hp⟩

theorem info_of_useGood (l : AlgLine) (ho : InfoFirstAllInfo l) (hg : useGood l = true) : ∀ n ∈ l.notes, n.level = .info := by
  unfold useGood at hg
  split at hg
  · next n0 rest hn =>
    rw [hn]
    exact List.forall_mem_cons.mpr ⟨of_decide_eq_true hg, ho n0 rest hn (of_decide_eq_true hg)⟩
  · cases hg

/-- **A finding is filtered by its own severity**: the method that prints a finding has the filter level of the finding's severity
    (`good` counts as `info`), so at minimum level `L` exactly the findings of severity ≥ `L` remain (`level_filter_section`). -/
theorem finding_level (cfg : Cfg) (inp : Input) (l : AlgLine) (ho : InfoFirstAllInfo l) :
    ∀ p ∈ algPairs cfg inp l, getLevel p.2.meth = getLevel (methOf p.1.level) := by
  intro p hp
  obtain ⟨first, n, hn, hm⟩ := mem_algPairs cfg inp l p hp
  obtain ⟨e1, e2, _⟩ := mem_notePair cfg inp l first n p hm
  rw [e1, e2]
  show getLevel (if useGood l = true then Meth.good else methOf n.level) = getLevel (methOf n.level)
  split
  · next hg => rw [info_of_useGood l ho hg n hn]; rfl
  · rfl

/-- every line `output_algorithms` produces from any rating database is ordered that way -/
theorem algLines_ordered (rf : List Str) (db : DB) (cat : Str) (names : List Str) (hk : List (Str × HostKeyInfo)) (dh : List (Str × Nat)) :
    ∀ l ∈ algLines rf db cat names hk dh, InfoFirstAllInfo l := by
  intro l hl n0 rest hnr h0
  obtain ⟨-, -, -, ht⟩ := (mem_algLines rf db cat names hk dh l).mp hl
  rcases (algTexts_eq_some_iff.mp ht).2 with ⟨-, hv⟩ | ⟨e, -, hv⟩
  · -- an unknown name carries the one warning
    rw [(Prod.mk.inj hv).1] at hnr
    cases hnr
    cases h0
  · rw [(Prod.mk.inj hv).1, entryTexts] at hnr
    split at hnr
    · cases hnr
      exact fun n hn => nomatch hn
    · exact rawTexts_ordered e n0 rest hnr h0

/-- … hence every algorithm line of a standard report -/
theorem report_lines_ordered (rf : List Str) (db : DB) (peer : Peer) (client : Bool) (bsw : Option Str) (sw : Option Version.Software) (rn : Str) :
    let r := report rf db peer client bsw sw rn
    ∀ l ∈ r.kex ++ r.key ++ r.enc ++ r.mac, InfoFirstAllInfo l := by
  intro r l hl
  simp only [List.mem_append] at hl
  rcases hl with ((h | h) | h) | h
  all_goals exact algLines_ordered _ _ _ _ _ _ l h

/-- **The printed text carries the finding**: the line of a finding is the algorithm's lead (`(cat) shown`) followed, when the note has
    text, by padding and ` -- [severity] text` — or, in non-verbose continuation form, blanks of the same width and `` `- [severity] text``. -/
theorem finding_text (cfg : Cfg) (inp : Input) (l : AlgLine) : ∀ p ∈ algPairs cfg inp l,
    let n : Note := { level := p.1.level, text := p.1.text }
    p.1.cat = l.cat ∧ p.1.shown = l.shown ∧
    (p.2.text = algLead l ++ (if n.text ≠ [] then algPad cfg inp l ++ s " -- " ++ tagText n else []) ∨
     (n.text ≠ [] ∧ cfg.verbose = false ∧ p.2.text = spaces (algLead l).length ++ algPad cfg inp l ++ s " `- " ++ tagText n)) := by
  intro p hp
  obtain ⟨first, n, _, hm⟩ := mem_algPairs cfg inp l p hp
  obtain ⟨e1, _, e2⟩ := mem_notePair cfg inp l first n p hm
  rw [e1]
  exact ⟨rfl, rfl, e2⟩

def withColors (cfg : Cfg) (c : Bool) : Cfg := { cfg with colors := c }

def EscFreeSec (sc : Sec) : Prop := esc ∉ sc.title ∧ ∀ it ∈ sc.items, esc ∉ it.text

theorem body_strip (cfg : Cfg) (c : Bool) (items : List Item) (h : ∀ it ∈ items, esc ∉ it.text) :
    (bodyOf (withColors cfg c) items).map stripAnsi = bodyOf (withColors cfg false) items := by
  unfold bodyOf
  rw [List.map_map]
  exact List.map_congr_left fun it hit => strip_paint c it.meth it.text (h it (List.mem_filter.mp hit).1)

theorem strip_closeLines (cfg : Cfg) (c : Bool) (title : Str) (body : List Str) (h : esc ∉ title) :
    (closeLines (withColors cfg c) title false body).map stripAnsi = closeLines (withColors cfg false) title false (body.map stripAnsi) := by
  have hh : stripAnsi (paint c .head title) = paint false .head title := strip_paint c .head title h
  cases hb : body with
  | nil => rfl
  | cons x xs =>
    cases hbt : cfg.batch <;> cases hp : passes cfg.level .info false <;> simp [closeLines, withColors, hbt, hp, hh, show stripAnsi [] = [] from rfl]

/-- **Colour strip, section by section**: removing the colour escapes from the coloured section gives the uncoloured section —
    exactly for the unsorted sections; the sorted section (recommendations) holds the same lines, possibly in another order,
    because the coloured lines are sorted *with* their escape prefix. -/
theorem colour_strip_section (cfg : Cfg) (c : Bool) (sc : Sec) (h : EscFreeSec sc) :
    (sc.sort = false → (renderSec (withColors cfg c) sc).map stripAnsi = renderSec (withColors cfg false) sc) ∧
    ((renderSec (withColors cfg c) sc).map stripAnsi).Perm (renderSec (withColors cfg false) sc) := by
  have hx : (closeLines (withColors cfg c) sc.title false (bodyOf (withColors cfg c) sc.items)).map stripAnsi =
      closeLines (withColors cfg false) sc.title false (bodyOf (withColors cfg false) sc.items) := by
    rw [strip_closeLines cfg c _ _ h.1, body_strip cfg c sc.items h.2]
  rw [renderSec_eq, renderSec_eq]
  constructor
  · intro hs
    rw [hs]
    exact hx
  · exact ((closeLines_perm _ _ _ _).map _).trans (hx ▸ (closeLines_perm _ _ _ _).symm)

theorem sections_colour_free (cfg : Cfg) (c : Bool) (inp : Input) : sections (withColors cfg c) inp = sections cfg inp := rfl

theorem map_strip_render (cfg : Cfg) (hj : cfg.json = false) (c : Bool) (inp : Input) (hu : esc ∉ unknownText inp.report.unknown) :
    (render (withColors cfg c) inp).map stripAnsi =
      (sections cfg inp).flatMap (fun sc => (renderSec (withColors cfg c) sc).map stripAnsi) ++ renderTail (withColors cfg false) inp := by
  have ht : ∀ it ∈ tailItems inp, esc ∉ it.text := by
    intro it hit
    simp only [tailItems, List.mem_ite_nil_right, List.mem_singleton] at hit
    exact hit.2 ▸ hu
  rw [render_text (withColors cfg c) hj, sections_colour_free, List.map_append, List.map_flatMap, renderTail_eq, renderTail_eq,
    body_strip cfg c _ ht]

/-- **Colour strip, whole report** (text mode, ESC-free texts): stripping the escapes from the coloured report gives the lines of the
    uncoloured report (same multiset; same order outside the sorted recommendation section). -/
theorem colour_strip (cfg : Cfg) (hj : cfg.json = false) (c : Bool) (inp : Input)
    (hs : ∀ sc ∈ sections cfg inp, EscFreeSec sc) (hu : esc ∉ unknownText inp.report.unknown) :
    ((render (withColors cfg c) inp).map stripAnsi).Perm (render (withColors cfg false) inp) := by
  rw [map_strip_render cfg hj c inp hu, render_text (withColors cfg false) hj, sections_colour_free]
  exact (Text.flatMap_rel List.Perm .nil (fun _ _ _ _ => .append) _ _ _
    fun sc h => (colour_strip_section cfg c sc (hs sc h)).2).append_right _

/-- without recommendations the coloured report strips to the uncoloured report line by line -/
theorem colour_strip_exact (cfg : Cfg) (hj : cfg.json = false) (c : Bool) (inp : Input)
    (hs : ∀ sc ∈ sections cfg inp, EscFreeSec sc) (hu : esc ∉ unknownText inp.report.unknown)
    (hns : ∀ sc ∈ sections cfg inp, sc.sort = true → sc.items = []) :
    (render (withColors cfg c) inp).map stripAnsi = render (withColors cfg false) inp := by
  have hsec : ∀ sc ∈ sections cfg inp, (renderSec (withColors cfg c) sc).map stripAnsi = renderSec (withColors cfg false) sc := by
    intro sc h
    cases hsort : sc.sort
    · exact (colour_strip_section cfg c sc (hs sc h)).1 hsort
    · rw [renderSec_nil _ sc (hns sc h hsort), renderSec_nil _ sc (hns sc h hsort)]; rfl
  rw [map_strip_render cfg hj c inp hu, render_text (withColors cfg false) hj, sections_colour_free, Text.flatMap_eq _ _ _ hsec]

theorem json_every_level (cfg : Cfg) (hj : cfg.json = true) (L : Nat) (inp : Input) : render (atLevel cfg L) inp = render cfg inp :=
  (json_once (atLevel cfg L) hj inp).trans (json_once cfg hj inp).symm

/-- the document is not coloured, filtered, padded or reordered by any option: two JSON option sets with the same indentation print the same entry -/
theorem json_option_free (cfg cfg' : Cfg) (hj : cfg.json = true) (hj' : cfg'.json = true) (hi : cfg.jsonIndent = cfg'.jsonIndent) (inp : Input) :
    render cfg inp = render cfg' inp := by
  rw [json_once _ hj, json_once _ hj', jsonDoc, jsonDoc, hi]

/-- **stdout of a completed JSON audit is exactly the document and a newline — one write — for every option set without `-d`**:
    any level, with or without `-v` (C15-VJ: `v()` is silent in JSON mode), batch, colours. -/
theorem json_stdout_single (cfg : Cfg) (hj : cfg.json = true) (hd : cfg.debug = false) (vmsgs : List Str) (inp : Input) :
    stdoutOf cfg vmsgs inp = [[jsonDoc cfg inp]] ∧ outEntries (stdoutOf cfg vmsgs inp) = [jsonDoc cfg inp] ∧
    outText (stdoutOf cfg vmsgs inp) = jsonDoc cfg inp ++ ['\n'] := by
  have : stdoutOf cfg vmsgs inp = [[jsonDoc cfg inp]] := by
    rw [stdout_eq]; unfold renderClosed; rw [if_pos hj]; simp [vWrites, hj, hd]
  rw [this]
  exact ⟨rfl, by simp [outEntries], by simp [outText, Text.join]⟩

/-- the C15-VJ witness: `-v -j` prints the document only -/
theorem json_verbose_repaired :
    outEntries (stdoutOf { json := true, verbose := true } [s "Starting audit of h:22..."] { report := warnOnlyReport, jsonCompact := s "{}" }) = [s "{}"] :=
  (json_stdout_single _ rfl rfl _ _).2.1

/-- **D05 (known finding): after a handshake error the document is followed by the raw error text** in the same write (any option set without `-d`). -/
theorem json_error_path (cfg : Cfg) (hj : cfg.json = true) (hl : cfg.level ≤ 2) (hd : cfg.debug = false)
    (vmsgs : List Str) (inp : Input) (err : Str) :
    stdoutOfError cfg vmsgs inp err = [[jsonDoc cfg inp, paint cfg.colors .fail err]] := by
  have hp : keep cfg.level ⟨.fail, err, false⟩ = true := (keep_of_level rfl rfl).trans (decide_eq_true hl)
  rw [stdoutOfError_eq, bodyOf_single, if_pos hp, renderClosed, if_pos hj]
  simp [vWrites, hj, hd]

theorem json_error_not_single :
    ¬ (∀ (cfg : Cfg) (vmsgs : List Str) (inp : Input) (err : Str), cfg.json = true → cfg.debug = false →
        outEntries (stdoutOfError cfg vmsgs inp err) = [jsonDoc cfg inp]) := by
  intro h
  have := h { json := true } [] { report := warnOnlyReport, hasKex := false, jsonCompact := s "{}" } (s "[exception] error reading packet (timed out)") rfl rfl
  rw [json_error_path _ rfl (by decide) rfl] at this
  revert this
  decide

/-- **JSON informational notes = text informational notes, for every name the database knows** (the same notes; the JSON document lists
    the "available since" text last, the text report first).  Failure and warning notes: `C03.json_eq_text_fail_warn` (equal lists). -/
theorem json_info_perm_text (db : DB) (fu : Str) (cat n : Str) (e : Entry) (hl : DBm.lookup db cat (gssNormalize cat n) = some e) :
    (((jsonNotes db fu cat n).info.getD []).filterMap id).Perm (((rawTexts e).filter (·.level = .info)).map (·.text)) := by
  rw [show ((rawTexts e).filter (·.level = .info)).map (·.text) = _ from rawTexts_at e .info]
  unfold jsonNotes sinceNote
  simp only [hl]
  cases Version.getSinceText (DBm.versions e) with
  | none =>
    rw [slot_json]
    exact .refl _
  | some t =>
    simp only
    by_cases ht : t.length > 0
    · rw [if_pos ht, if_pos ht, Option.getD_some, List.filterMap_append, slot_json]
      exact List.perm_append_comm
    · rw [if_neg ht, if_neg ht, slot_json]
      exact .refl _

/-! The longest text of a report is the hardening-guide line inside `infoItems`; the evaluations below first bring the section texts into
the goal and decode the literals there. -/

def exInp : Input :=
  { report :=
      { kex := [{ cat := kexC, name := s "k1", shown := s "k1", notes := [⟨.fail, s "f"⟩, ⟨.warn, s "w"⟩, ⟨.info, s "i"⟩], unknown := false },
                { cat := kexC, name := s "k2", shown := s "k2", notes := [⟨.info, s "i2"⟩], unknown := false }],
        key := [], enc := [], mac := [], status := 3, compression := [],
        recs := [{ cat := kexC, action := .del, name := s "k1", points := 10 }], notes := [], unknown := [] },
    maxlen := 3 }

example : render { batch := true } exInp =
    [s "(gen) compression: disabled", s "(kex) k1 -- [fail] f", s "         `- [warn] w", s "         `- [info] i", s "(kex) k2 -- [info] i2",
     s "(rec) -k1-- kex algorithm to remove ", s "(nfo) For hardening guides on common OSes, please see: <https://www.ssh-audit.com/hardening_guides.html>"] := by
  rw [render_eq_closed]
  unfold renderClosed sections infoItems s
  decode_literals
  decide +kernel

example : render { batch := true, level := 2 } exInp = [s "(kex) k1 -- [fail] f", s "(rec) -k1-- kex algorithm to remove "] := by
  rw [render_eq_closed]
  unfold renderClosed sections infoItems s
  decode_literals
  decide +kernel

example : render { batch := true, verbose := true, level := 1 } exInp =
    [s "(kex) k1 -- [fail] f", s "(kex) k1 -- [warn] w", s "(rec) -k1-- kex algorithm to remove ",
     s "(nfo) For hardening guides on common OSes, please see: <https://www.ssh-audit.com/hardening_guides.html>"] := by
  rw [render_eq_closed]
  unfold renderClosed sections infoItems s
  decode_literals
  decide +kernel

example : (exec { level := 1 } [.print .info (s "Result: ") false false, .print .fail (s "Failed!") true false] {}).buffer = [s "Failed!"] := by decide +kernel
example : (exec {} [.print .info (s "Result: ") false false, .print .fail (s "Failed!") true false] {}).buffer = [s "Result: Failed!"] := by decide +kernel
example : (exec {} [.enter, .print .info (s "x") false false, .exit, .print .info (s "y") true false] {}).err = some .index := by decide +kernel

end SshAudit.C15
