/-
  C08 — One bad target never costs the others their results.

  Model: SshAudit.Model.Multi (`workerResult`, `rankFold`, `frameOutput`, `mainRun`), the ranked
  status list regenerated from `main()` by the translator (`Gen.rankedReturnCodes`).
-/
import SshAudit.Model.Multi
import SshAudit.Gen.Tables
namespace SshAudit.C08
open SshAudit SshAudit.Multi

/-- the ranking as the code has it: good < warning < failure < connection error < internal error -/
theorem ranked_order : Gen.rankedReturnCodes = [0, 2, 3, 1, -1] := by decide

/-- **Containment**: every target — whatever its scan did (returned, raised, `sys.exit`) — contributes exactly one
    result to the run. The content is that `workerResult` is total on `Outcome`; the equation itself is `List.length_map`. -/
theorem containment (ranked : List Int) (json : Bool) (outcomes : List Outcome) :
    (outcomes.map workerResult).length = outcomes.length := List.length_map _

/-- every status a worker can hand back is in the ranked list, so the rank lookup cannot fail -/
theorem rank_total (o : Outcome)
    (hret : ∀ st txt, o = .returned st txt → st ∈ [0, 1, 2, 3]) (hexit : ∀ c txt, o = .sysExit c txt → c ∈ [1, -1]) :
    (rank Gen.rankedReturnCodes (workerResult o).1).isSome = true := by
  -- a status has a rank when it is in the list, and the statuses a worker hands back are
  rw [rank, List.findIdx?_isSome, List.any_eq_true]
  refine ⟨_, ?_, decide_eq_true rfl⟩
  cases o with
  | returned st txt => exact (by decide : ∀ x ∈ ([0, 1, 2, 3] : List Int), x ∈ Gen.rankedReturnCodes) _ (hret st txt rfl)
  | raised m => exact (by decide : (-1 : Int) ∈ Gen.rankedReturnCodes)
  | sysExit c txt => exact (by decide : ∀ x ∈ ([1, -1] : List Int), x ∈ Gen.rankedReturnCodes) _ (hexit c txt rfl)

/-- rank of a status in `[0, 2, 3, 1, -1]`, meant for the five documented values: any other status gets the top rank 4 here, while
    `rankStep` ignores it (its `rank` is `none`), so what is said through `rk` carries `Documented` -/
def rk (x : Int) : Nat := if x = 0 then 0 else if x = 2 then 1 else if x = 3 then 2 else if x = 1 then 3 else 4

def Documented (x : Int) : Prop := x = 0 ∨ x = 2 ∨ x = 3 ∨ x = 1 ∨ x = -1

theorem rank_eq_rk (x : Int) (h : Documented x) : rank [0, 2, 3, 1, -1] x = some (rk x) := by
  rcases h with rfl | rfl | rfl | rfl | rfl <;> decide

theorem rankFold_cons (ranked : List Int) (ret w : Int) (ws : List Int) :
    rankFold ranked ret (w :: ws) = rankFold ranked (rankStep ranked ret w) ws := rfl

theorem rankStep_doc (acc w : Int) (ha : Documented acc) (hw : Documented w) :
    rankStep [0, 2, 3, 1, -1] acc w = (if rk w > rk acc then w else acc) := by
  unfold rankStep
  rw [rank_eq_rk w hw, rank_eq_rk acc ha]

/-- `l.foldl max a` is by definition the maximum `(a :: l).max` of core -/
theorem foldl_max_ge (l : List Nat) (a : Nat) : a ≤ l.foldl max a ∧ ∀ x ∈ l, x ≤ l.foldl max a :=
  ⟨List.le_max_of_mem (l := a :: l) List.mem_cons_self, fun _ hx => List.le_max_of_mem (l := a :: l) (List.mem_cons_of_mem _ hx)⟩

theorem rankStep_eq_or (R : List Int) (a w : Int) : rankStep R a w = a ∨ rankStep R a w = w := by
  fun_cases rankStep R a w
  case case1 => exact .inr rfl
  case case2 | case3 => exact .inl rfl

theorem rankStep_unranked (R : List Int) (a w : Int) (h : rank R a = none ∨ rank R w = none) : rankStep R a w = a := by
  unfold rankStep
  rcases h with h | h <;> simp [h]

theorem rank_rankStep {R : List Int} {a w : Int} {k i : Nat} (ha : rank R a = some k) (hw : rank R w = some i) :
    rank R (rankStep R a w) = some (max k i) := by
  simp only [rankStep, ha, hw]
  split
  · rw [hw, Nat.max_eq_right (Nat.le_of_lt ‹_›)]
  · rw [ha, Nat.max_eq_left (Nat.le_of_not_lt ‹_›)]

theorem rank_inj {R : List Int} {a b : Int} {i : Nat} (ha : rank R a = some i) (hb : rank R b = some i) : a = b := by
  obtain ⟨h, ha, -⟩ := List.findIdx?_eq_some_iff_getElem.mp ha
  obtain ⟨_, hb, -⟩ := List.findIdx?_eq_some_iff_getElem.mp hb
  exact (of_decide_eq_true ha).symm.trans (of_decide_eq_true hb)

theorem rankFold_mem (R : List Int) (ret : Int) (l : List Int) : rankFold R ret l = ret ∨ rankFold R ret l ∈ l :=
  List.foldlRecOn l (rankStep R) (motive := fun r => r = ret ∨ r ∈ l) (.inl rfl)
    fun b hb a ha => (rankStep_eq_or R b a).elim (fun e => e.symm ▸ hb) (fun e => .inr (e.symm ▸ ha))

/-- unranked statuses are ignored; of ranked ones both orders keep a status of the highest rank, and a rank belongs to one status -/
theorem rankStep_comm (R : List Int) (z x y : Int) :
    rankStep R (rankStep R z x) y = rankStep R (rankStep R z y) x := by
  cases hz : rank R z with
  | none => simp only [rankStep_unranked R z _ (.inl hz)]
  | some k =>
    cases hx : rank R x with
    | none => rw [rankStep_unranked R z x (.inr hx), rankStep_unranked R _ x (.inr hx)]
    | some i =>
      cases hy : rank R y with
      | none => rw [rankStep_unranked R z y (.inr hy), rankStep_unranked R _ y (.inr hy)]
      | some j =>
        refine rank_inj (rank_rankStep (rank_rankStep hz hx) hy) ?_
        rw [rank_rankStep (rank_rankStep hz hy) hx, Nat.max_assoc, Nat.max_comm j i, ← Nat.max_assoc]

theorem rankFold_perm (R : List Int) (ret : Int) {rs rs' : List Int} (hp : rs.Perm rs') :
    rankFold R ret rs = rankFold R ret rs' :=
  hp.foldl_eq' (fun x _ y _ z => rankStep_comm R z x y) ret

theorem rankFold_spec (ret : Int) (rs : List Int) (hr : Documented ret) (hs : ∀ w ∈ rs, Documented w) :
    Documented (rankFold [0, 2, 3, 1, -1] ret rs) ∧
    rk (rankFold [0, 2, 3, 1, -1] ret rs) = (rs.map rk).foldl max (rk ret) := by
  induction rs generalizing ret with
  | nil => exact ⟨hr, rfl⟩
  | cons w ws ih =>
    have hw := hs w List.mem_cons_self
    have hd : Documented (rankStep [0, 2, 3, 1, -1] ret w) := (rankStep_eq_or _ ret w).elim (fun e => e.symm ▸ hr) (fun e => e.symm ▸ hw)
    -- `rk` is the rank of a documented status, and the step keeps the higher rank
    have hk := (rank_eq_rk _ hd).symm.trans (rank_rankStep (rank_eq_rk ret hr) (rank_eq_rk w hw))
    rw [rankFold_cons, List.map_cons, List.foldl_cons, ← Option.some.inj hk]
    exact ih _ hd fun x hx => hs x (List.mem_cons_of_mem _ hx)

/-- **The run's exit status is the highest-ranked status among the targets**: it is one of them (or 0 for an empty
    run) and no target's status outranks it. -/
theorem rank_fold_max (rs : List Int) (hs : ∀ w ∈ rs, Documented w) :
    (∀ w ∈ rs, rk w ≤ rk (rankFold Gen.rankedReturnCodes 0 rs)) ∧
    (rankFold Gen.rankedReturnCodes 0 rs = 0 ∨ rankFold Gen.rankedReturnCodes 0 rs ∈ rs) := by
  refine ⟨fun w hw => ?_, rankFold_mem _ 0 rs⟩
  rw [ranked_order, (rankFold_spec 0 rs (Or.inl rfl) hs).2]
  exact (foldl_max_ge (rs.map rk) (rk 0)).2 (rk w) (List.mem_map.mpr ⟨w, hw, rfl⟩)

/-- …and it does not depend on the order in which the targets complete -/
theorem rank_fold_perm (rs rs' : List Int) (hp : rs.Perm rs') (hs : ∀ w ∈ rs, Documented w) :
    rankFold Gen.rankedReturnCodes 0 rs = rankFold Gen.rankedReturnCodes 0 rs' :=
  rankFold_perm _ 0 hp

/-- text mode (the definition of `frameOutput` restated) -/
theorem text_blocks (outs : List Str) :
    frameOutput false outs = List.intercalate (dashes ++ ['\n', '\n']) (outs.map (· ++ ['\n'])) := rfl

/-- JSON mode (likewise) -/
theorem json_array (outs : List Str) :
    frameOutput true outs = ['['] ++ List.intercalate [',', ' '] outs ++ [']', '\n'] := rfl

/-- the number of per-target blocks handed to the framing equals the number of targets, for every mix of outcomes -/
theorem one_block_per_target (ranked : List Int) (json : Bool) (outcomes : List Outcome) :
    ((outcomes.map workerResult).map (·.2)).length = outcomes.length :=
  (List.length_map _).trans (containment ranked json outcomes)

example : rankFold Gen.rankedReturnCodes 0 [2, 1, 3, 0] = 1 ∧ rankFold Gen.rankedReturnCodes 0 [3, 2] = 3 ∧ rankFold Gen.rankedReturnCodes 0 [0, -1, 1] = -1 := by decide +kernel
example : workerResult (.sysExit 1 []) = (1, []) ∧ workerResult (.raised ['x']) = (-1, ['x']) := by decide +kernel

end SshAudit.C08
