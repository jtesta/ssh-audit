/-
  C14 — Software versions are ordered numerically, component by component.

  Model: `SshAudit.Model.Version` (software.py / algorithm.py / timeframe.py / the version
  filter of algorithms.py as they are in /repo).  Spec: `numCmp`, the lexicographic
  order on the lists of numbers the dot-separated components denote (a proper prefix is
  older).  A *grammar version* is `render ds ++ patch` with `ds` a non-empty list of non-empty
  digit strings of ANY length (so 10.0, 0.10.6, 2022.83, zero-padded 7.04 are all covered)
  and `patch` a suffix that does not continue the version (`PatchShape`).
-/
import SshAudit.Lemmas.Version
import SshAudit.Gen.KexDB
namespace SshAudit.C14
open SshAudit SshAudit.Version SshAudit.Text

def s (x : String) : Str := x.toList

/-- −1 older, 0 same, 1 newer -/
def numCmp : List Nat → List Nat → Int
  | [], [] => 0
  | [], _ :: _ => -1
  | _ :: _, [] => 1
  | a :: as, b :: bs => if a < b then -1 else if b < a then 1 else numCmp as bs

theorem numCmp_eq_cmpOf (a b : List Nat) : numCmp a b = cmpOf natsLt a b := by
  fun_induction numCmp a b with
  | case1 => rfl
  | case2 => rfl
  | case3 => rfl
  | case4 x xs y ys h => simp [cmpOf, natsLt, lexLt, natLt, h]
  | case5 x xs y ys h1 h2 => simp [cmpOf, natsLt, lexLt, natLt, h1, h2]
  | case6 x xs y ys h1 h2 ih =>
    simp only [ih, cmpOf, natsLt, lexLt, natLt, h1, h2, decide_false, Bool.false_eq_true, if_false]
    rfl

theorem numCmp_isPreCmp : IsPreCmp (fun _ : List Nat => True) numCmp :=
  (cmpOf_isPreCmp (lexLt_strictTotal natLt_strictTotal)).congr fun a b _ _ => numCmp_eq_cmpOf a b

theorem numCmp_antisymm (a b : List Nat) : numCmp a b = - numCmp b a :=
  numCmp_isPreCmp.antisymm a b trivial trivial

theorem numCmp_trans (a b c : List Nat) : numCmp a b ≤ 0 → numCmp b c ≤ 0 → numCmp a c ≤ 0 :=
  numCmp_isPreCmp.trans a b c trivial trivial trivial

theorem numCmp_self (a : List Nat) : numCmp a a = 0 := by
  have := numCmp_antisymm a a; omega

/-- what `compare_version` must return on two grammar versions of one product -/
def expected (product : Str) (n₁ n₂ : List Nat) (patch₁ patch₂ : Str) : Int :=
  if numCmp n₁ n₂ ≠ 0 then numCmp n₁ n₂ else patchCmp product patch₁ patch₂

/-- `_compare_version_numbers` on two dot-separated decimal versions is `numCmp` of their numbers
    (any number of components, any number of digits). -/
theorem compareVersionNumbers_numeric (ds₁ ds₂ : List Str) (h₁ : WfDs ds₁) (h₂ : WfDs ds₂) :
    compareVersionNumbers (render ds₁) (render ds₂) = numCmp (vals ds₁) (vals ds₂) := by
  simp only [compareVersionNumbers, dotNum?_render ds₁ h₁, dotNum?_render ds₂ h₂, numCmp_eq_cmpOf]

/-- The regular expression of `compare_version` takes `<version><patch>` apart again — also when
    the version is a single character (`9p1`). -/
theorem splitOther_grammar (ds : List Str) (h : WfDs ds) (pa : Str) (hp : PatchShape pa) :
    splitOther (render ds ++ pa) = (render ds, pa) := by
  have h1 : 1 ≤ (render ds).length := List.length_pos_iff.mpr (render_ne_nil ds h)
  simp only [splitOther, verPrefixN_render 1 ds h h1 pa hp, dotTail_noNl pa hp.noNl, hp.stripped]

/-- For every product, every two dot-separated decimal versions and every patch suffix,
    `compare_version` returns the component-wise numeric comparison and, when the numbers are
    equal, the product's patch comparison. -/
theorem compare_numeric (vendor os patch : Option Str) (product : Str) (ds₁ ds₂ : List Str) (pa : Str)
    (h₁ : WfDs ds₁) (h₂ : WfDs ds₂) (hp : PatchShape pa) :
    compareVersion ⟨vendor, product, render ds₁, patch, os⟩ (render ds₂ ++ pa)
      = expected product (vals ds₁) (vals ds₂) (patch.getD []) pa := by
  simp only [compareVersion, splitOther_grammar ds₂ h₂ pa hp,
    compareVersionNumbers_numeric ds₁ ds₂ h₁ h₂, expected]

/-- the same when the argument is a `Software` object (its version and patch are glued together
    and split again) -/
theorem compare_numeric_software (self other : Software) (ds₁ ds₂ : List Str)
    (e₁ : self.version = render ds₁) (e₂ : other.version = render ds₂)
    (h₁ : WfDs ds₁) (h₂ : WfDs ds₂) (hp : PatchShape (other.patch.getD [])) :
    compareVersionO self (.soft other)
      = expected self.product (vals ds₁) (vals ds₂) (self.patch.getD []) (other.patch.getD []) := by
  cases self with
  | mk v p ver pa o =>
    simp only at e₁; subst e₁
    simp only [compareVersionO, e₂]
    exact compare_numeric v o pa p ds₁ ds₂ _ h₁ h₂ hp

/-- `compare_numeric` over numbers written the usual way (`[10, 0] ↦ "10.0"`). -/
theorem compare_numeric_nat (vendor os patch : Option Str) (product : Str) (ns₁ ns₂ : List Nat) (pa : Str)
    (h₁ : ns₁ ≠ []) (h₂ : ns₂ ≠ []) (hp : PatchShape pa) :
    compareVersion ⟨vendor, product, verText ns₁, patch, os⟩ (verText ns₂ ++ pa)
      = expected product ns₁ ns₂ (patch.getD []) pa := by
  have := compare_numeric vendor os patch product _ _ pa (wfDs_canon ns₁ h₁) (wfDs_canon ns₂ h₂) hp
  simpa only [vals_canon, verText] using this

/-- A one-character version followed by a patch (`9p1`, `3p1`) is split and compared numerically (D13-onechar); evaluated on the model. -/
theorem compare_numeric_one_digit :
    compareVersion ⟨none, pOpenSSH, ['1','0'], none, none⟩ ['9','p','1'] = 1
    ∧ compareVersion ⟨none, pOpenSSH, ['9'], some ['p','1'], none⟩ ['1','0'] = -1
    ∧ compareVersion ⟨none, pOpenSSH, ['3'], none, none⟩ ['3','p','1'] = 0
    ∧ compareVersion ⟨none, pOpenSSH, ['3'], some ['p','1'], none⟩ ['3'] = 0
    ∧ compareVersion ⟨none, pOpenSSH, ['3'], some ['p','1'], none⟩ ['3','p','2'] = -1
    ∧ compareVersion ⟨none, pDropbear, ['9'], none, none⟩ ['9','t','e','s','t','3'] = 1
    ∧ splitOther ['9','p','1'] = (['9'], ['p','1']) := by
  decide +kernel

/-- … and for every one-component version `d` (any length, in particular one character). -/
theorem compare_numeric_one_component (vendor os patch : Option Str) (product : Str) (ds₁ : List Str) (d pa : Str)
    (h₁ : WfDs ds₁) (hd : IsNum d) (hp : PatchShape pa) :
    compareVersion ⟨vendor, product, render ds₁, patch, os⟩ (d ++ pa)
      = expected product (vals ds₁) [decVal d] (patch.getD []) pa := by
  have h₂ : WfDs [d] := ⟨by simp, fun x hx => by simp at hx; subst hx; exact hd⟩
  have := compare_numeric vendor os patch product ds₁ [d] pa h₁ h₂ hp
  simpa [render, join, vals] using this

def mk (product version : Str) (patch : Option Str := none) : Software := ⟨none, product, version, patch, none⟩

/-- The inputs of ledger entry D13 (10.0 against 9.9, 0.10.6 against 0.7.0, 2022.83 against 0.53.1, …), evaluated on the model. -/
theorem compare_numeric_examples :
    compareVersion (mk pOpenSSH ['1','0','.','0']) ['9','.','9'] = 1
    ∧ compareVersion (mk pOpenSSH ['9','.','9']) ['1','0','.','0'] = -1
    ∧ compareVersion (mk pLibSSH ['0','.','1','0','.','6']) ['0','.','7','.','0'] = 1
    ∧ compareVersion (mk pLibSSH ['0','.','9','.','8']) ['0','.','1','1','.','1'] = -1
    ∧ compareVersion (mk pDropbear ['2','0','2','2','.','8','3']) ['0','.','5','3','.','1'] = 1
    ∧ compareVersion (mk pOpenSSH ['1','0','.','0'] (some ['p','1'])) ['9','.','9','p','2'] = 1
    ∧ compareVersion (mk pOpenSSH ['7','.','1','0']) ['7','.','9'] = 1
    ∧ compareVersion (mk pOpenSSH ['7','.','4']) ['7','.','4','.','1'] = -1
    ∧ compareVersion (mk pOpenSSH ['7','.','0','4']) ['7','.','4'] = 0 := by
  decide +kernel

/-- a grammar version -/
structure GV where
  ds : List Str
  patch : Str

/-- the `Software` object of a grammar version (no patch is `None`, as `Software.parse` makes it) -/
def GV.soft (p : Str) (v : GV) : Software := ⟨none, p, render v.ds, if v.patch = [] then none else some v.patch, none⟩
def GV.text (v : GV) : Str := render v.ds ++ v.patch
def GV.nums (v : GV) : List Nat := vals v.ds

def opensshPatches : List Str :=
  [[], ['p','1'], ['p','2'], ['p','3'], ['p','4'], ['p','5'], ['p','6'], ['p','7'], ['p','8'], ['p','9']]

/-- the patch grammar: OpenSSH `""|p1..p9`; for every other product (Dropbear `testN…`, libssh,
    …) any suffix of the right shape -/
def PatchOK (p pa : Str) : Prop := p = pOpenSSH → pa ∈ opensshPatches

structure GV.Wf (p : Str) (v : GV) : Prop where
  ds : WfDs v.ds
  shape : PatchShape v.patch
  grammar : PatchOK p v.patch

/-- `a.compare_version(b)` for two grammar versions of product `p` -/
def cmpG (p : Str) (a b : GV) : Int := compareVersion (a.soft p) b.text

theorem soft_patch (p : Str) (v : GV) : (v.soft p).patch.getD [] = v.patch := by
  simp only [GV.soft]; split <;> simp_all

theorem cmpG_eq (p : Str) (a b : GV) (ha : a.Wf p) (hb : b.Wf p) :
    cmpG p a b = expected p a.nums b.nums a.patch b.patch := by
  have := compare_numeric none none (a.soft p).patch p a.ds b.ds b.patch ha.ds hb.ds hb.shape
  rw [soft_patch] at this
  exact this

/-- where the OpenSSH branch of `compare_version` puts a patch: `pN` at N (`mx.group(1)`), a plain release with p1
    (`# OpenBSD version and p1 versions are considered the same.`) -/
def opensshRank : Str → Nat
  | ['p', d] => d.toNat - '0'.toNat
  | _ => 1

/-- OpenSSH: a plain release counts as p1, and p1 < p2 < … < p9. -/
theorem openssh_patch_order :
    ∀ a ∈ opensshPatches, ∀ b ∈ opensshPatches,
      patchCmp pOpenSSH a b = (if opensshRank a < opensshRank b then -1 else if opensshRank b < opensshRank a then 1 else 0) := by
  decide +kernel

theorem patchCmp_isPreCmp (p : Str) : IsPreCmp (PatchOK p) (patchCmp p) := by
  by_cases hd : p = pDropbear
  · exact ((cmpOf_isPreCmp strLt_strictTotal).comap dropbearKey fun _ _ => trivial).congr
      fun a b _ _ => by simp [patchCmp, hd]
  · by_cases ho : p = pOpenSSH
    · subst ho
      refine ((cmpOf_isPreCmp natLt_strictTotal).comap opensshRank fun _ _ => trivial).congr fun a b ha hb => ?_
      rw [openssh_patch_order a (ha rfl) b (hb rfl)]
      simp only [cmpOf, natLt, decide_eq_true_eq]
    · exact ((cmpOf_isPreCmp strLt_strictTotal).comap id fun _ _ => trivial).congr
        fun a b _ _ => by simp [patchCmp, hd, ho]

theorem cmpG_isPreCmp (p : Str) : IsPreCmp (GV.Wf p) (cmpG p) :=
  ((numCmp_isPreCmp.comap GV.nums fun _ _ => trivial).lex
    ((patchCmp_isPreCmp p).comap GV.patch fun _ hv => hv.grammar)).congr (cmpG_eq p)

/-- Swapping the two versions flips the verdict. -/
theorem compare_antisymm (p : Str) (a b : GV) (ha : a.Wf p) (hb : b.Wf p) : cmpG p a b = - cmpG p b a :=
  (cmpG_isPreCmp p).antisymm a b ha hb

/-- "not newer than" is transitive. -/
theorem compare_trans (p : Str) (a b c : GV) (ha : a.Wf p) (hb : b.Wf p) (hc : c.Wf p) :
    cmpG p a b ≤ 0 → cmpG p b c ≤ 0 → cmpG p a c ≤ 0 :=
  (cmpG_isPreCmp p).trans a b c ha hb hc

theorem compare_trans_strict (p : Str) (a b c : GV) (ha : a.Wf p) (hb : b.Wf p) (hc : c.Wf p) :
    (cmpG p a b < 0 → cmpG p b c ≤ 0 → cmpG p a c < 0)
    ∧ (cmpG p a b ≤ 0 → cmpG p b c < 0 → cmpG p a c < 0)
    ∧ (cmpG p a b = 0 → cmpG p b c = 0 → cmpG p a c = 0) :=
  ⟨(cmpG_isPreCmp p).lt_of_lt_of_le ha hb hc, (cmpG_isPreCmp p).lt_of_le_of_lt ha hb hc,
   (cmpG_isPreCmp p).eq_trans ha hb hc⟩

theorem compare_sign (p : Str) (a b : GV) (ha : a.Wf p) (hb : b.Wf p) :
    cmpG p a b = -1 ∨ cmpG p a b = 0 ∨ cmpG p a b = 1 := by
  rw [cmpG_eq p a b ha hb, expected]
  split
  · rw [numCmp_eq_cmpOf]; exact cmpOf_range _ _ _
  · exact patchCmp_range _ _ _

theorem openssh_p1_same_as_plain (ds : List Str) (h : WfDs ds) :
    cmpG pOpenSSH ⟨ds, []⟩ ⟨ds, ['p','1']⟩ = 0 ∧ cmpG pOpenSSH ⟨ds, ['p','1']⟩ ⟨ds, []⟩ = 0 := by
  have m0 : ([] : Str) ∈ opensshPatches := by decide
  have m1 : ['p','1'] ∈ opensshPatches := by decide
  have w0 : GV.Wf pOpenSSH ⟨ds, []⟩ := ⟨h, patchShape_nil, fun _ => m0⟩
  have w1 : GV.Wf pOpenSSH ⟨ds, ['p','1']⟩ := ⟨h, patchShape_of_check ['p','1'] (by decide), fun _ => m1⟩
  rw [cmpG_eq _ _ _ w0 w1, cmpG_eq _ _ _ w1 w0]
  simp only [expected, GV.nums, numCmp_self]
  decide

/-- Dropbear: a `testN…` pre-release of a version is older than the release itself. -/
theorem dropbear_test_older_than_release (ds : List Str) (h : WfDs ds)
    (d : Char) (rest : Str) (hd : isDigit d = true) (hp : PatchShape ('t' :: 'e' :: 's' :: 't' :: d :: rest)) :
    cmpG pDropbear ⟨ds, 't' :: 'e' :: 's' :: 't' :: d :: rest⟩ ⟨ds, []⟩ = -1
    ∧ cmpG pDropbear ⟨ds, []⟩ ⟨ds, 't' :: 'e' :: 's' :: 't' :: d :: rest⟩ = 1 := by
  have hne : pDropbear ≠ pOpenSSH := by decide
  have w0 : GV.Wf pDropbear ⟨ds, []⟩ := ⟨h, patchShape_nil, fun e => absurd e hne⟩
  have w1 : GV.Wf pDropbear ⟨ds, 't' :: 'e' :: 's' :: 't' :: d :: rest⟩ := ⟨h, hp, fun e => absurd e hne⟩
  have hr : '\n' ∉ rest := fun hm => hp.noNl (by simp [hm])
  have ht : isTestPatch ('t' :: 'e' :: 's' :: 't' :: d :: rest) = true := by
    simp [isTestPatch, hd, dotTail_noNl rest hr]
  have hz : isTestPatch [] = false := by decide
  -- the key of a `testN…` patch starts with `t`, the key of a release with `z`
  have hlt : strLt ('t' :: 'e' :: 's' :: 't' :: d :: rest) ['z'] = true :=
    (lexLt_cons charLt_strictTotal ..).mpr (Or.inl (by decide))
  rw [cmpG_eq _ _ _ w1 w0, cmpG_eq _ _ _ w0 w1]
  simp only [expected, GV.nums, numCmp_self, patchCmp, dropbearKey, ht, hz, ne_eq, not_true_eq_false, Bool.false_eq_true, if_true, if_false,
    cmpOf, hlt, strLt_strictTotal.asymm hlt, and_self]

/-- Remark: outside the grammar (text after `pN`) the OpenSSH patch rule is not transitive:
    7.4 ≡ 7.4p1, 7.4 ≡ 7.4p1-hpn, but 7.4p1 < 7.4p1-hpn. -/
theorem hpn_triple_not_transitive :
    compareVersion (mk pOpenSSH (s "7.4")) (s "7.4p1") = 0
    ∧ compareVersion (mk pOpenSSH (s "7.4")) (s "7.4p1-hpn") = 0
    ∧ compareVersion (mk pOpenSSH (s "7.4") (some (s "p1"))) (s "7.4p1-hpn") = -1 := by
  unfold s
  decode_literals
  decide +kernel

/-- Remark: `p0` (not a real OpenSSH suffix) is outside the grammar for the same reason:
    7.4 < 7.4p0 < 7.4p1 but 7.4 ≡ 7.4p1. -/
theorem openssh_p0_not_transitive :
    compareVersion (mk pOpenSSH (s "7.4")) (s "7.4p0") = -1
    ∧ compareVersion (mk pOpenSSH (s "7.4") (some (s "p0"))) (s "7.4p1") = -1
    ∧ compareVersion (mk pOpenSSH (s "7.4")) (s "7.4p1") = 0 := by
  unfold s
  decode_literals
  decide +kernel

theorem expected_nil (p : Str) (n₁ n₂ : List Nat) : expected p n₁ n₂ [] [] = numCmp n₁ n₂ := by
  unfold expected
  split
  · rfl
  · next h => rw [patchCmp_nil, Decidable.not_not.mp h]

theorem compare_plain {vendor os : Option Str} {p : Str} {ds₁ ds₂ : List Str} (h₁ : WfDs ds₁) (h₂ : WfDs ds₂) :
    compareVersion ⟨vendor, p, render ds₁, none, os⟩ (render ds₂) = numCmp (vals ds₁) (vals ds₂) := by
  have := compare_numeric vendor os none p ds₁ ds₂ [] h₁ h₂ patchShape_nil
  rwa [List.append_nil, Option.getD_none, expected_nil] at this

/-- A release lies between two versions iff it does numerically. -/
theorem between_numeric (p : Str) (ds f t : List Str) (h : WfDs ds) (hf : WfDs f) (ht : WfDs t) :
    betweenVersions (mk p (render ds)) (render f) (render t) = true
      ↔ 0 ≤ numCmp (vals ds) (vals f) ∧ numCmp (vals ds) (vals t) ≤ 0 := by
  rw [betweenVersions_iff, mk, compare_plain h hf, compare_plain h ht]
  simp only [ne_eq, render_ne_nil f hf, render_ne_nil t ht, not_false_eq_true, forall_const]

/-- a database descriptor: product prefix, version, client-only marker -/
structure Desc where
  prod : Str
  ds : List Str
  cli : Bool

def prefixOf (p : Str) : Str := if p = pDropbear then ['d'] else if p = pLibSSH then ['l','1'] else []

def Desc.text (d : Desc) : Str := prefixOf d.prod ++ render d.ds ++ (if d.cli then ['C'] else [])

structure Desc.Wf (d : Desc) : Prop where
  prod : d.prod = pOpenSSH ∨ d.prod = pDropbear ∨ d.prod = pLibSSH
  ds : WfDs d.ds

theorem productOfDesc_text (d : Desc) (h : d.Wf) : productOfDesc (prefixOf d.prod ++ render d.ds) = (d.prod, render d.ds) := by
  rcases h.prod with hp | hp | hp <;> rw [hp]
  · obtain ⟨c0, rest0, e0, hc0⟩ := render_first d.ds h.ds
    rw [show prefixOf pOpenSSH = [] from rfl, List.nil_append, e0]
    unfold productOfDesc
    split
    · next heq => cases heq; exact absurd hc0 (by decide)
    · next heq => cases heq; exact absurd hc0 (by decide)
    · rfl
  · rfl
  · rfl

theorem getSshVersion_desc (d : Desc) (h : d.Wf) : getSshVersion d.text = (d.prod, render d.ds, d.cli) := by
  obtain ⟨pre, c, e, hc⟩ := render_last d.ds h.ds
  have hb := productOfDesc_text d h
  have hl : (prefixOf d.prod ++ render d.ds).getLast? = some c := by rw [e, ← List.append_assoc, List.getLast?_concat]
  unfold getSshVersion Desc.text
  cases d.cli
  · simp [hl, hb, isDigit_ne hc (x := 'C') rfl]
  · simp only [if_true, List.getLast?_concat, beq_self_eq_true, List.dropLast_concat, hb]

theorem Desc.text_no_comma (d : Desc) (h : d.Wf) : ',' ∉ d.text := by
  intro hm
  simp only [Desc.text, List.mem_append] at hm
  rcases hm with (hm | hm) | hm
  · rcases h.prod with hp | hp | hp <;> rw [hp] at hm <;> revert hm <;> decide
  · have := render_verChars d.ds h.ds.2 _ hm; revert this; decide
  · split at hm <;> simp at hm

/-- One database descriptor admits the algorithm for an identified server exactly when it names
    the server's product, is not client-only (for a server audit) and the server's version is
    `expected ≥ 0`, i.e. numerically at least the descriptor's version (patch order on ties). -/
theorem admits_iff_numeric (vendor os patch : Option Str) (product : Str) (ds : List Str) (h : WfDs ds)
    (d : Desc) (hd : d.Wf) (forServer : Bool) :
    admits (some ⟨vendor, product, render ds, patch, os⟩) forServer d.text = true
      ↔ d.prod = product ∧ ¬ (d.cli = true ∧ forServer = true)
        ∧ 0 ≤ expected product (vals ds) (vals d.ds) (patch.getD []) [] := by
  have hcmp := compare_numeric vendor os patch product ds d.ds [] h hd.ds patchShape_nil
  rw [List.append_nil] at hcmp
  rw [admits_some_iff, getSshVersion_desc d hd, hcmp]
  exact and_iff_right (render_ne_nil d.ds hd.ds)

/-- For an identified OpenSSH (plain or pN), Dropbear or libssh release, the whole `versions[0]`
    string of a database entry lets the algorithm count as available iff some descriptor names
    the product, is not client-only when auditing a server, and the server's version is
    numerically at least the descriptor's version. -/
theorem available_iff_numeric (vendor os patch : Option Str) (product : Str) (ds : List Str) (h : WfDs ds)
    (hrel : ∀ n, 0 ≤ expected product (vals ds) n (patch.getD []) [] ↔ 0 ≤ numCmp (vals ds) n)
    (descs : List Desc) (hne : descs ≠ []) (hd : ∀ d ∈ descs, d.Wf) (forServer : Bool) :
    versionFilter (some ⟨vendor, product, render ds, patch, os⟩) false forServer (join [','] (descs.map Desc.text)) = true
      ↔ ∃ d ∈ descs, d.prod = product ∧ ¬ (d.cli = true ∧ forServer = true) ∧ 0 ≤ numCmp (vals ds) (vals d.ds) := by
  have hcomma : ∀ t ∈ descs.map Desc.text, ',' ∉ t := fun t ht => by
    obtain ⟨d, hdm, rfl⟩ := List.mem_map.mp ht
    exact d.text_no_comma (hd d hdm)
  simp only [versionFilter, Bool.false_or]
  rw [splitOn_join ',' (by simpa using hne) hcomma]
  simp only [List.any_map, List.any_eq_true, Function.comp]
  exact exists_congr fun d => and_congr_right fun hdm => by
    rw [admits_iff_numeric vendor os patch product ds h d (hd d hdm) forServer, hrel]

/-- the side condition `hrel` of `available_iff_numeric` holds for every release without patch
    and for every OpenSSH portable release p1 … p9 -/
theorem release_patch_ok (product : Str) (n₁ n₂ : List Nat) (pa : Str)
    (hpa : pa = [] ∨ (product = pOpenSSH ∧ pa ∈ opensshPatches)) :
    0 ≤ expected product n₁ n₂ pa [] ↔ 0 ≤ numCmp n₁ n₂ := by
  simp only [expected]
  split
  · exact Iff.rfl
  · rename_i h0
    have h0' : numCmp n₁ n₂ = 0 := by simpa using h0
    rw [h0']
    rcases hpa with hpa | ⟨hp, hm⟩
    · subst hpa; simp [patchCmp_nil]
    · subst hp
      have : ∀ a ∈ opensshPatches, 0 ≤ patchCmp pOpenSSH a [] := by decide +kernel
      simpa using this pa hm

/-- numeric "older than" on version texts (false when either is not dot-separated decimal) -/
def verLt (a b : Str) : Bool :=
  match dotNum? a, dotNum? b with
  | some x, some y => decide (numCmp x y < 0)
  | _, _ => false

/-- both are dot-separated decimal versions and Python's `str <` orders them as numbers do -/
def orderSafe (a b : Str) : Bool :=
  (dotNum? a).isSome && (dotNum? b).isSome && (strLt a b == verLt a b) && (strLt b a == verLt b a)

/-- On an order-safe pair the slot rule of `Timeframe._update` keeps the numerically newest
    version in the "from" slots (even) and the numerically oldest in the "till" slots (odd). -/
theorem slotStep_numeric (pos : Nat) (prev ver : Str) (h : orderSafe prev ver = true) :
    slotStep pos (some prev) ver =
      some (if pos % 2 = 0 then (if verLt prev ver then ver else prev) else (if verLt ver prev then ver else prev)) := by
  simp only [orderSafe, Bool.and_eq_true, beq_iff_eq] at h
  rw [slotStep_some, beats, h.1.2, h.2]
  by_cases hp : pos % 2 = 0
  · simp only [hp, if_true]
  · simp only [hp, if_false]

/-- On versions that are pairwise order-safe the string min/max of `Timeframe._update` is the numeric
    one: the fold leaves the numerically newest in a "from" slot, the numerically oldest in a "till" slot. -/
theorem timeframe_fold_numeric (pos : Nat) (v0 : Str) (vs : List Str)
    (hs : ∀ a ∈ v0 :: vs, ∀ b ∈ v0 :: vs, orderSafe a b = true) :
    ∃ r, vs.foldl (slotStep pos) (some v0) = some r ∧ r ∈ v0 :: vs ∧
      ∀ v ∈ v0 :: vs, (if pos % 2 = 0 then verLt r v else verLt v r) = false := by
  obtain ⟨r, hr, hm, ha⟩ := foldl_slotStep_some pos v0 vs
  refine ⟨r, hr, hm, fun v hv => ?_⟩
  -- on an order-safe pair `verLt` is `strLt`, so this is `beats pos v r = false`
  have h := hs r hm v hv
  simp only [orderSafe, Bool.and_eq_true, beq_iff_eq] at h
  rw [← h.1.2, ← h.2]
  exact ha v hv

/-- every `(product, version)` the two rating databases mention -/
def dbVersions : List (Str × Str) := dbVersionsOf Gen.ssh2db ++ dbVersionsOf Gen.ssh1db

/-- every pair of versions of one product occurring anywhere in the two rating databases -/
def dbPairs : List (Str × Str) :=
  let vs := dbVersions.eraseDups
  vs.flatMap fun a => (vs.filter (fun b => b.1 = a.1)).map fun b => (a.2, b.2)

theorem mem_dbPairs (p a b : Str) (ha : (p, a) ∈ dbVersions) (hb : (p, b) ∈ dbVersions) : (a, b) ∈ dbPairs := by
  simp only [dbPairs, List.mem_flatMap, List.mem_map, List.mem_filter, List.mem_eraseDups, decide_eq_true_eq]
  exact ⟨(p, a), ha, (p, b), ⟨hb, rfl⟩, rfl⟩

/-- **Table obligation** (regenerated from /repo on every run): every same-product pair of
    version strings in the databases is order-safe, so `Timeframe`'s string comparisons — hence
    the `(gen) compatibility` line — are numerically right for the current tables.  Adding e.g.
    OpenSSH `10.0` next to `9.9` to a database breaks this theorem. -/
theorem db_versions_order_safe : ∀ ab ∈ dbPairs, orderSafe ab.1 ab.2 = true := by
  decide +kernel

/-- Consequently, whatever versions of one product the databases feed into one `Timeframe` slot,
    in whatever order, the slot ends up holding the numerically newest ("from") / oldest ("till"). -/
theorem db_timeframe_numeric (pos : Nat) (p v0 : Str) (vs : List Str) (h : ∀ v ∈ v0 :: vs, (p, v) ∈ dbVersions) :
    ∃ r, vs.foldl (slotStep pos) (some v0) = some r ∧ r ∈ v0 :: vs ∧
      ∀ v ∈ v0 :: vs, (if pos % 2 = 0 then verLt r v else verLt v r) = false :=
  timeframe_fold_numeric pos v0 vs (fun a ha b hb =>
    db_versions_order_safe (a, b) (mem_dbPairs p a b (h a ha) (h b hb)))

-- `tfUpdate` / `sshTimeframe` as a whole (which descriptor of which list reaches which of the four slots, the
-- per-product association list): for a `bool` role `Props/C14Compat.lean` proves that every slot is this fold over the
-- versions offered to it (`timeframe_from`, `timeframe_till`) and that the bounds are numerically right for the regenerated
-- tables (`gen_bounds_numeric`).  NOT proved: the role `None` (both frames at once), which no caller in /repo passes; it is
-- tied to timeframe.py by correspondence (ops ver.tf / ver.dbtf) and checked against an independent numeric
-- re-implementation by the oracle (check 'timeframe').

example : WfDs [s "10", s "0"] ∧ render [s "10", s "0"] = s "10.0" ∧ vals [s "10", s "0"] = [10, 0] := by
  exact ⟨wfDs_canon [10, 0] (by decide), by decide, by decide⟩
example : numCmp [10, 0] [9, 9] = 1 ∧ numCmp [0, 10, 6] [0, 7, 0] = 1 ∧ numCmp [7, 4] [7, 4, 1] = -1 ∧ numCmp [7, 4] [7, 4] = 0 := by decide
example : PatchShape (s "p1") ∧ PatchShape (s "test3") ∧ PatchShape (s "-hpn14v1") :=
  ⟨patchShape_of_check _ (by decide), patchShape_of_check _ (by decide), patchShape_of_check _ (by decide)⟩
example : dbPairs.length > 1000 := by decide +kernel
example : orderSafe (s "10.0") (s "9.9") = false := by
  unfold s
  decode_literals
  decide +kernel
example : (⟨pDropbear, [s "2018", s "76"], false⟩ : Desc).text = s "d2018.76" ∧ (⟨pLibSSH, [s "0", s "6", s "0"], false⟩ : Desc).text = s "l10.6.0"
    ∧ (⟨pOpenSSH, [s "8", s "0"], true⟩ : Desc).text = s "8.0C" := by
  unfold s
  decode_literals
  decide +kernel
example : versionFilter (some (mk pOpenSSH (s "10.0"))) false true (s "9.9,d2020.79") = true
    ∧ versionFilter (some (mk pOpenSSH (s "9.8"))) false true (s "9.9,d2020.79") = false
    ∧ versionFilter (some (mk pLibSSH (s "0.10.6"))) false true (s "6.4,d2013.62,l10.7.0") = true := by
  unfold s
  decode_literals
  decide +kernel
end SshAudit.C14
