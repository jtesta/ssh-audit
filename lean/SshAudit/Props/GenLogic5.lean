/-
  Regenerated logic, fifth unit: the multiple-precision integers of C10.  `Gen.Logic.parse_mpint` is `ReadBuf._parse_mpint`, `mpint2_pad_fmt` the
  choice of padding byte and first-word format in `read_mpint2` (`struct.unpack` of one field is `Py.unpack1`); together they compute
  `Wire.signedBE` (D01: with every 32-bit word unpacked as signed, `parse_signed` fails).  `create_mpint` is the body of `WriteBuf._create_mpint`
  from `length = …` to the final `if` (`struct.pack('>{}Q'.format(ql), *v2)` is `Py.packQ`); for `bits = n.bit_length()` — what `_bitlength`
  returns, outside the translated block — it computes `Wire.createMpint` (signed) / `Wire.createMpintI` (unsigned).

  The two loops are proved for an arbitrary body (`words_loop`, `cm_loop`).  Equations that follow the generated text: the padding test and
  count of `_parse_mpint` (in `parse_mpint_eq_words`), the two length formulas of `_create_mpint` (in `create_mpint_eq_model`) and its final
  `lstrip` / `startswith` branch (`Wire.lstrip_bytesOf`, `stripFF_bytesOf`).
-/
import SshAudit.Gen.Logic5
import SshAudit.Lemmas.Py
import SshAudit.Lemmas.Mpint
import SshAudit.Props.C10
set_option linter.unusedSimpArgs false
namespace SshAudit.GenLogic
open SshAudit

-- the two instances are stated with the numerals the arithmetic below works in
private theorem bor_shl (r : Int) (t : Nat) (ht : t < 4294967296) : Py.bor (r <<< (32 : Nat)) (t : Int) = r * 4294967296 + t :=
  Py.bor_shiftLeft r t 32 ht

private theorem band_mask (x : Int) : Py.band x 18446744073709551615 = x % 18446744073709551616 := Py.band_two_pow_sub_one x 64

/-- the loop of `_parse_mpint` on the bytes that are left, four at a time; `first`: the caller's format `f` applies to this word -/
def wordsFold (f : Str) : Bool → Int → Bytes → Option Int
  | _, r, [] => some r
  | first, r, a :: b :: c :: d :: rest =>
    (Py.unpack1 (if first then f else ['>', 'I']) [a, b, c, d]).bind fun t => wordsFold f false (Py.bor (r <<< (32 : Nat)) t) rest
  | _, _, _ => none

/-- the loop of `_parse_mpint` for an arbitrary body that, at offset `4j`, unpacks the four bytes found there and shifts them in -/
theorem words_loop (f : Str) (w : Bytes) (F : Int → Int → Option Int)
    (hF : ∀ (r : Int) (j : Nat) (a b c d : UInt8) (rest : Bytes), w.drop (4 * j) = a :: b :: c :: d :: rest →
      F r ((4 * j : Nat) : Int) = (Py.unpack1 (if j == 0 then f else ['>', 'I']) [a, b, c, d]).bind fun t => some (Py.bor (r <<< (32 : Nat)) t))
    (hw : w.length % 4 = 0) : Py.foldlOpt F 0 (Py.range3 0 (Int.ofNat w.length) 4) = wordsFold f true 0 w := by
  have key : ∀ (m j : Nat) (r : Int), w.length = 4 * (j + m) →
      Py.foldlOpt F r ((List.range' j m).map fun i => ((4 * i : Nat) : Int)) = wordsFold f (j == 0) r (w.drop (4 * j)) := by
    intro m
    induction m with
    | zero =>
      intro j r hl
      have : w.drop (4 * j) = [] := List.drop_eq_nil_of_le (Nat.le_of_eq hl)
      rw [this]
      rfl
    | succ m ih =>
      intro j r hl
      obtain ⟨a, b, c, d, rest, hd⟩ := Py.exists_four (w.drop (4 * j)) (by rw [List.length_drop]; omega)
      have hrest : w.drop (4 * (j + 1)) = rest := by rw [Nat.mul_succ, ← List.drop_drop, hd]; rfl
      rw [List.range'_succ, List.map_cons, Py.foldlOpt_cons, hF r j a b c d rest hd, hd, wordsFold, Option.bind_assoc]
      congr 1
      funext t
      rw [Option.bind_some, ← hrest]
      exact ih (j + 1) _ (by omega)
  obtain ⟨m, hm⟩ : ∃ m, w.length = 4 * m := ⟨w.length / 4, by omega⟩
  rw [hm, Int.ofNat_eq_natCast, Py.range3_four]
  exact key m 0 0 (by omega)

theorem unpack_unsigned (a b c d : UInt8) : Py.unpack1 ['>', 'I'] [a, b, c, d] = some (Py.beNat [a, b, c, d] : Int) := by
  simp [Py.unpack1]

theorem wordsFold_unsigned (f : Str) (m : Nat) : ∀ (w : Bytes) (r : Int), w.length = 4 * m →
    wordsFold f false r w = some (r * (4294967296 : Int) ^ m + (Py.beNat w : Int)) := by
  induction m with
  | zero =>
    intro w r hl
    have : w = [] := List.eq_nil_of_length_eq_zero (by omega)
    subst this
    simp [wordsFold, Py.beNat]
  | succ m ih =>
    intro w r hl
    obtain ⟨a, b, c, d, rest, rfl⟩ := Py.exists_four w (by omega)
    have hr : rest.length = 4 * m := by simp only [List.length_cons] at hl; omega
    simp only [wordsFold, Bool.false_eq_true, if_false, unpack_unsigned, Option.bind_some]
    rw [bor_shl r _ (Wire.word_lt a b c d), ih rest _ hr, Wire.beNat_word a b c d rest hr, Int.natCast_add, Int.natCast_mul, Int.natCast_pow]
    congr 1
    rw [Int.add_mul, Int.pow_succ, Int.mul_assoc, Int.mul_comm (4294967296 : Int) ((4294967296 : Int) ^ m), Int.add_assoc]
    rfl

/-- `pad * (4 - len(v) % 4) + v` when the length is not a multiple of four -/
def padded (v : Bytes) (padb : UInt8) : Bytes :=
  if v.length % 4 != 0 then List.replicate (4 - v.length % 4) padb ++ v else v

theorem padded_len (v : Bytes) (padb : UInt8) : (padded v padb).length % 4 = 0 := by
  unfold padded
  by_cases h : v.length % 4 = 0
  · simp [h]
  · simp [h]; omega

theorem parse_mpint_eq_words (v : Bytes) (padb : UInt8) (f : Str) :
    Gen.Logic.parse_mpint v [padb] f = wordsFold f true 0 (padded v padb) := by
  have hc : (Int.ofNat v.length % 4 != 0) = (v.length % 4 != 0) := by
    rw [Bool.eq_iff_iff]
    simp only [bne_iff_ne, ne_eq, Int.ofNat_eq_natCast]
    omega
  have hk : (4 - Int.ofNat v.length % 4).toNat = 4 - v.length % 4 := by simp only [Int.ofNat_eq_natCast]; omega
  simp only [Gen.Logic.parse_mpint, Py.repeatB, hc, hk, List.flatten_replicate_singleton, ← padded.eq_1]
  rw [words_loop f (padded v padb) _ ?body (padded_len v padb)]
  case body =>
    -- the generated body is the pass `words_loop` assumes: `i == 0` picks the caller's format, `v[i:i + 4]` are the four bytes at `4j`
    intro r j a b c d rest hd
    have h0 : (((4 * j : Nat) : Int) == 0) = (j == 0) := by
      rw [Bool.eq_iff_iff]
      simp only [beq_iff_eq]
      omega
    simp only [Py.slice_natCast_lit, hd, List.take_succ_cons, List.take_zero, h0]
  cases wordsFold f true 0 (padded v padb) <;> rfl

/-- the choice of padding byte and first-word format in `read_mpint2` follows the top bit of the first byte -/
theorem mpint2_pad_fmt_eq_model (x : UInt8) (xs : Bytes) :
    Gen.Logic.mpint2_pad_fmt (x :: xs) = some (if 128 ≤ x.toNat then ([255], ['>', 'i']) else ([0], ['>', 'I'])) := by
  have hs : Py.slice (x :: xs) 0 1 = [x] := by
    rw [Py.slice_of_nonneg (by omega) (by omega)]; rfl
  have hx : x.toNat % 256 = x.toNat := Nat.mod_eq_of_lt x.toNat_lt
  simp only [Gen.Logic.mpint2_pad_fmt, hs, Py.ordB, Option.bind_some, Int.ofNat_eq_natCast, Py.top_bit, hx]
  by_cases h : 128 ≤ x.toNat <;> simp [h]

theorem wordsFold_first_irrelevant (first : Bool) (r : Int) (w : Bytes) :
    wordsFold ['>', 'I'] first r w = wordsFold ['>', 'I'] false r w := by
  cases first
  · rfl
  · unfold wordsFold
    split <;> rfl

/-- a non-negative number: zero padding, every word unsigned -/
theorem parse_unsigned (v : Bytes) : Gen.Logic.parse_mpint v [0] ['>', 'I'] = some (Py.beNat v : Int) := by
  rw [parse_mpint_eq_words, wordsFold_first_irrelevant]
  obtain ⟨m, hm⟩ : ∃ m, (padded v 0).length = 4 * m := ⟨(padded v 0).length / 4, by have := padded_len v 0; omega⟩
  rw [wordsFold_unsigned _ m _ _ hm, Int.zero_mul, Int.zero_add]
  congr 2
  unfold padded
  split
  · rw [Wire.beNat_append, Wire.beNat_zeros]; simp
  · rfl

theorem unpack_signed_neg (a b c d : UInt8) (ha : 128 ≤ a.toNat) :
    Py.unpack1 ['>', 'i'] [a, b, c, d] = some ((Py.beNat [a, b, c, d] : Int) - 4294967296) := by
  have hv : Py.beNat [a, b, c, d] = ((a.toNat * 256 + b.toNat) * 256 + c.toNat) * 256 + d.toNat := by simp [Py.beNat]
  have : ¬ (Py.beNat [a, b, c, d] < 2 ^ 31) := by rw [hv]; omega
  have e32 : (2 : Int) ^ 32 = 4294967296 := by decide
  simp [Py.unpack1, this, e32]

theorem words_signed (a b c d : UInt8) (rest : Bytes) (ha : 128 ≤ a.toNat) {m : Nat} (hm : rest.length = 4 * m) :
    wordsFold ['>', 'i'] true 0 (a :: b :: c :: d :: rest) = some (Wire.signedBE (Wire.natsOf (a :: b :: c :: d :: rest))) := by
  have hl : (Wire.natsOf (b :: c :: d :: rest)).length + 1 = 4 * (m + 1) := by
    rw [Wire.natsOf_length]; simp only [List.length_cons]; omega
  have hs : Wire.signedBE (Wire.natsOf (a :: b :: c :: d :: rest)) = (Py.beNat (a :: b :: c :: d :: rest) : Int) - (4294967296 : Int) ^ (m + 1) := by
    rw [← Wire.ofBE_natsOf]
    show Wire.signedBE (a.toNat :: Wire.natsOf (b :: c :: d :: rest)) = _
    rw [Wire.signedBE_cons, if_pos ha, hl, Int.pow_mul]
    rfl
  simp only [wordsFold, if_true, unpack_signed_neg a b c d ha, Option.bind_some, Py.bor_zero_shl]
  rw [wordsFold_unsigned _ m _ _ hm, hs, Wire.beNat_word a b c d rest hm, Int.natCast_add, Int.natCast_mul, Int.natCast_pow, Int.sub_mul, Int.pow_succ,
    show ((4294967296 : Nat) : Int) = 4294967296 from rfl]
  congr 1
  omega

/-- a negative number (top bit of the first byte set): `ff` padding, the first word signed -/
theorem parse_signed (x : UInt8) (xs : Bytes) (hx : 128 ≤ x.toNat) :
    Gen.Logic.parse_mpint (x :: xs) [255] ['>', 'i'] = some (Wire.signedBE (Wire.natsOf (x :: xs))) := by
  rw [parse_mpint_eq_words]
  -- the padded string: p bytes ff, then the string; p + length is a positive multiple of four
  obtain ⟨p, hp⟩ : ∃ p, padded (x :: xs) 255 = List.replicate p (255 : UInt8) ++ (x :: xs) := by
    unfold padded
    split
    · exact ⟨_, rfl⟩
    · exact ⟨0, rfl⟩
  have hlen := padded_len (x :: xs) 255
  rw [hp] at hlen ⊢
  obtain ⟨a, b, c, d, rest, hw⟩ := Py.exists_four (List.replicate p (255 : UInt8) ++ (x :: xs)) (by
    simp only [List.length_append, List.length_replicate, List.length_cons] at hlen ⊢; omega)
  have ha : 128 ≤ a.toNat := by
    cases p with
    | zero => rw [← (List.cons.inj hw).1]; exact hx
    | succ p => rw [List.replicate_succ, List.cons_append] at hw; rw [← (List.cons.inj hw).1]; decide
  obtain ⟨m, hm⟩ : ∃ m, rest.length = 4 * m := by
    refine ⟨rest.length / 4, ?_⟩
    have : (a :: b :: c :: d :: rest).length % 4 = 0 := by rw [← hw]; exact hlen
    simp only [List.length_cons] at this
    omega
  have hn : Wire.natsOf (List.replicate p (255 : UInt8) ++ (x :: xs)) = List.replicate p 255 ++ x.toNat :: Wire.natsOf xs := by
    simp [Wire.natsOf]
  -- the loop gives the two's-complement value of the padded string, and sign extension does not change it
  rw [hw, words_signed a b c d rest ha hm, ← hw, hn, Wire.signedBE_ones p _ _ hx]
  rfl

/-- `read_mpint2` on a non-empty string: the regenerated `_parse_mpint`, called with the regenerated choice of padding and format, computes
    `Wire.signedBE` and never raises -/
theorem parse_mpint_eq_model (v : Bytes) (hv : v ≠ []) :
    ((Gen.Logic.mpint2_pad_fmt v).bind fun pf => Gen.Logic.parse_mpint v pf.1 pf.2) = some (Wire.signedBE (Wire.natsOf v)) := by
  match v, hv with
  | x :: xs, _ =>
    rw [mpint2_pad_fmt_eq_model]
    by_cases h : 128 ≤ x.toNat
    · simp only [h, if_true, Option.bind_some]
      exact parse_signed x xs h
    · simp only [h, if_false, Option.bind_some]
      rw [parse_unsigned, ← Wire.ofBE_natsOf]
      show _ = some (Wire.signedBE (x.toNat :: Wire.natsOf xs))
      rw [Wire.signedBE_cons, if_neg h]
      rfl

example : ((Gen.Logic.mpint2_pad_fmt [0xfe, 0x80, 0, 0, 0]).bind fun pf => Gen.Logic.parse_mpint [0xfe, 0x80, 0, 0, 0] pf.1 pf.2) = some (-0x180000000) := by
  decide +kernel

/-- the regenerated reader inverts the model's writer: for every non-zero integer, what `_create_mpint` (model `Wire.createMpint`, tied by
    correspondence) writes is read back as that integer by the code of `read_mpint2` / `_parse_mpint` as regenerated from the source -/
theorem regenerated_reader_inverts_writer (n : Int) (hn : n ≠ 0) :
    ((Gen.Logic.mpint2_pad_fmt (Wire.bytesOf (Wire.createMpint n))).bind fun pf =>
        Gen.Logic.parse_mpint (Wire.bytesOf (Wire.createMpint n)) pf.1 pf.2) = some n := by
  have hne : Wire.bytesOf (Wire.createMpint n) ≠ [] := by
    intro h
    have := C10.createMpint_signed n
    rw [List.map_eq_nil_iff.mp h] at this
    exact hn this.symm
  rw [parse_mpint_eq_model _ hne, Wire.natsOf_bytesOf _ (Wire.createMpint_lt n), C10.createMpint_signed]

/-- the low `k` base-2^64 digits of an integer in two's complement, most significant first: what the loop of `_create_mpint` leaves in `v2` -/
def wordsBE (n : Int) : Nat → List Int
  | 0 => []
  | k+1 => wordsBE (n / 18446744073709551616) k ++ [n % 18446744073709551616]

theorem wordsBE_length (n : Int) (k : Nat) : (wordsBE n k).length = k := by
  induction k generalizing n with
  | zero => rfl
  | succ k ih => simp [wordsBE, ih]

theorem wordsBE_range (n : Int) (k : Nat) : ∀ x ∈ wordsBE n k, 0 ≤ x ∧ x < 18446744073709551616 := by
  induction k generalizing n with
  | zero => exact fun _ hx => nomatch hx
  | succ k ih =>
    exact List.forall_mem_append.mpr ⟨ih _, List.forall_mem_singleton.mpr ⟨Int.emod_nonneg _ (by decide), Int.emod_lt_of_pos _ (by decide)⟩⟩

theorem pow8 : (256 : Int) ^ 8 = 18446744073709551616 := by decide

theorem flatMap_words (n : Int) (k : Nat) :
    (wordsBE n k).flatMap (fun x => Py.beBytes x.toNat 8) = Wire.bytesOf (Wire.toBEi n (8 * k)) := by
  induction k generalizing n with
  | zero => rfl
  | succ k ih =>
    have h8 : 8 * (k + 1) = 8 * k + 8 := by omega
    rw [h8, Wire.toBEi_add, pow8]
    simp only [wordsBE, List.flatMap_append, List.flatMap_cons, List.flatMap_nil, List.append_nil]
    have hw : Wire.toBE (n % 18446744073709551616).toNat 8 = Wire.toBEi n 8 := by
      rw [Wire.toBEi_eq, pow8]
    rw [ih, Wire.beBytes_eq, hw]
    simp [Wire.bytesOf]

theorem wordsBE_cons (n : Int) (k : Nat) :
    wordsBE n (k + 1) = (n / (18446744073709551616 : Int) ^ k % 18446744073709551616) :: wordsBE n k := by
  induction k generalizing n with
  | zero => simp [wordsBE]
  | succ k ih =>
    have hp : (18446744073709551616 : Int) ^ (k + 1) = 18446744073709551616 * 18446744073709551616 ^ k := by rw [Int.pow_succ, Int.mul_comm]
    rw [wordsBE, ih, hp, Int.ediv_ediv_of_nonneg (by decide)]
    rfl

/-- the loop of `_create_mpint` for an arbitrary body that, at pass `i`, stores the low 64 bits at position `Q - 1 - i` and shifts them out -/
theorem cm_loop (Q : Nat) (n : Int) {F : List Int × Int → Int → Option (List Int × Int)}
    (hF : ∀ (W : List Int) (x : Int) (i : Nat), i < Q → W.length = Q →
      F (W, x) (Int.ofNat i) = some (W.set (Q - 1 - i) (x % 18446744073709551616), x / 18446744073709551616)) :
    Py.foldlOpt F (Py.replicate (Q : Int) (0 : Int), n) (Py.range (Q : Int)) = some (wordsBE n Q, n / (18446744073709551616 : Int) ^ Q) := by
  have key : ∀ i, i ≤ Q → Py.foldlOpt F (List.replicate Q (0 : Int), n) ((List.range i).map Int.ofNat)
      = some (List.replicate (Q - i) (0 : Int) ++ wordsBE n i, n / (18446744073709551616 : Int) ^ i) := by
    intro i hi
    induction i with
    | zero => simp [wordsBE]
    | succ i ih =>
      have hrep : Q - i = (Q - (i + 1)) + 1 := by omega
      rw [List.range_succ, List.map_append, Py.foldlOpt_append, ih (by omega), Option.bind_some, List.map_cons, List.map_nil, Py.foldlOpt_cons,
        hF _ _ i hi (by rw [List.length_append, List.length_replicate, wordsBE_length]; omega), Option.bind_some, Py.foldlOpt_nil,
        Nat.sub_sub, Nat.add_comm 1 i, hrep, Py.set_replicate_append, ← wordsBE_cons, Int.ediv_ediv_of_nonneg (Int.le_of_lt (Int.pow_pos (by decide))),
        ← Int.pow_succ]
  have := key Q (Nat.le_refl Q)
  rwa [Nat.sub_self, List.replicate_zero, List.nil_append] at this

theorem stripFF_bytesOf (L : List Nat) (h : ∀ d ∈ L, d < 256) :
    (if Py.startsWithB (Wire.bytesOf L) ([255, 128] : Bytes) then Py.sliceFrom (Wire.bytesOf L) (1 : Int) else Wire.bytesOf L)
      = Wire.bytesOf (Wire.stripFF L) := by
  match L, h with
  | [], _ => rfl
  | [a], _ => simp [Py.startsWithB, Wire.bytesOf, Wire.stripFF, List.isPrefixOf]
  | a :: b :: rest, h =>
    have ha : a < 256 := h a (by simp)
    have hb : b < 256 := h b (by simp)
    have e1 := Wire.uint8_ofNat_beq 255 a (by decide) ha
    have e2 := Wire.uint8_ofNat_beq 128 b (by decide) hb
    have hs : Py.startsWithB (Wire.bytesOf (a :: b :: rest)) ([255, 128] : Bytes) = (decide (255 = a) && decide (128 = b)) := by
      show List.isPrefixOf [UInt8.ofNat 255, UInt8.ofNat 128] (UInt8.ofNat a :: UInt8.ofNat b :: Wire.bytesOf rest) = _
      simp only [List.isPrefixOf, e1, e2, Bool.and_true]
    rw [hs]
    by_cases h1 : 255 = a
    · by_cases h2 : 128 = b
      · subst h1; subst h2
        simp [Wire.stripFF, Py.sliceFrom, Py.normIdx, Wire.bytesOf]
      · simp [h1, h2, Wire.stripFF_of_ne rest (fun h => h2 h.2.symm)]
    · simp [h1, Wire.stripFF_of_ne rest (fun h => h1 h.1.symm)]

/-- `struct.pack('>kQ', *words)` of the `k` low 64-bit words is the `8k` low bytes -/
theorem packQ_wordsBE (n : Int) (Q : Nat) :
    Py.packQ ('>' :: (Py.fmtD (Q : Int) ++ ['Q'])) (wordsBE n Q) = some (Wire.bytesOf (Wire.toBEi n (8 * Q))) := by
  unfold Py.packQ
  rw [if_pos ⟨by rw [wordsBE_length]; rfl, wordsBE_range n Q⟩, flatMap_words]

/-- `data[-len:]` keeps the `len` low bytes (`len = 0` only with no bytes at all: `data[-0:]` would be everything) -/
theorem sliceFrom_toBEi (n : Int) (len m : Nat) (h : len ≤ m) (h0 : len = 0 → m = 0) :
    Py.sliceFrom (Wire.bytesOf (Wire.toBEi n m)) (-(len : Int)) = Wire.bytesOf (Wire.toBEi n len) := by
  unfold Py.sliceFrom Py.normIdx Wire.bytesOf
  rw [List.length_map, Wire.toBEi_length, ← List.map_drop]
  by_cases hz : len = 0
  · rw [hz, h0 hz]; rfl
  · have hk : ((m : Int) + -(len : Int)).toNat = m - len := by omega
    obtain ⟨k, rfl⟩ : ∃ k, m = k + len := ⟨m - len, by omega⟩
    rw [if_pos (by omega), hk, Nat.add_sub_cancel, Wire.toBEi_drop]

theorem create_mpint_eq_model (n : Int) (signed : Bool) :
    Gen.Logic.create_mpint n signed (Wire.bitLen n.natAbs : Int)
      = some (Wire.bytesOf (if signed then Wire.createMpint n else Wire.createMpintI n)) := by
  let len : Nat := Wire.bitLen n.natAbs / 8 + (if n = 0 then 0 else 1)
  let Q : Nat := (len + 7) / 8
  have hlen : ((Wire.bitLen n.natAbs : Int) / (8 : Int) + (if (n != (0 : Int)) then (1 : Int) else (0 : Int))) = (len : Int) := by
    by_cases h0 : n = 0
    · simp [len, h0]
    · simp only [len, h0, bne_iff_ne, ne_eq, not_false_eq_true, if_true, if_false]; omega
  have hql : (((len : Int) + (7 : Int)) / (8 : Int)) = (Q : Int) := by simp only [Q]; omega
  unfold Gen.Logic.create_mpint
  simp only [hlen, hql]
  rw [cm_loop Q n ?body]
  case body =>
    -- the generated body is the pass `cm_loop` assumes: `v2[ql - i - 1] = n & mask`, then `n >>= 64`
    intro W x i hi hW
    have hidx : (Q : Int) - Int.ofNat i - 1 = ((Q - 1 - i : Nat) : Int) := by simp only [Int.ofNat_eq_natCast]; omega
    simp only [hidx, Py.setItem_natCast (show Q - 1 - i < W.length by omega), band_mask, Option.bind_some, Int.shiftRight_eq_div_pow]
    rfl
  have hle : len ≤ 8 * Q := by simp only [Q]; omega
  have h0 : len = 0 → 8 * Q = 0 := fun h => by simp only [Q, h]
  simp only [Option.bind_some, List.cons_append, List.nil_append, packQ_wordsBE, sliceFrom_toBEi n len _ hle h0]
  rw [Wire.toBEi_eq]
  have hd := Wire.toBE_lt ((n % (256 : Int) ^ len).toNat) len
  cases signed with
  | true =>
    simp only [Bool.not_true, Bool.false_eq_true, if_false, if_true]
    rw [stripFF_bytesOf _ hd]
    rfl
  | false =>
    simp only [Bool.not_false, if_true, Bool.false_eq_true, if_false]
    rw [Wire.lstrip_bytesOf _ hd]
    rfl

/-- writer and reader as regenerated from the source, composed: every non-zero integer written by `_create_mpint` (signed) is read back by
    `read_mpint2` / `_parse_mpint` — no hand-written model between the two regenerated definitions -/
theorem regenerated_roundtrip (n : Int) (hn : n ≠ 0) :
    ((Gen.Logic.create_mpint n true (Wire.bitLen n.natAbs : Int)).bind fun d =>
      (Gen.Logic.mpint2_pad_fmt d).bind fun pf => Gen.Logic.parse_mpint d pf.1 pf.2) = some n := by
  rw [create_mpint_eq_model, if_pos rfl, Option.bind_some]
  exact regenerated_reader_inverts_writer n hn

example : Gen.Logic.create_mpint (-129) true 8 = some [255, 127] ∧ Gen.Logic.create_mpint (-128) true 8 = some [128]
    ∧ Gen.Logic.create_mpint 128 true 8 = some [0, 128] ∧ Gen.Logic.create_mpint 128 false 8 = some [128]
    ∧ Gen.Logic.create_mpint 0 true 0 = some [] ∧ Gen.Logic.create_mpint 18446744073709551616 true 65 = some [1, 0, 0, 0, 0, 0, 0, 0, 0] := by
  decide +kernel

/-- `read_mpint1` asks for exactly as many bytes as the writer emitted after the 16-bit header -/
theorem mpint1_nbytes_eq_model (n : Nat) :
    Gen.Logic.mpint1_nbytes (Wire.bitLen n : Int) = ((Wire.bytesOf (Wire.createMpintU n)).length : Int) := by
  unfold Gen.Logic.mpint1_nbytes
  rw [C10.createMpintU_eq]
  simp only [Wire.bytesOf, List.length_map, Wire.minBE_length]
  omega

/-- SSH-1 writer and reader as they stand in the source, composed: every natural number comes back -/
theorem regenerated_roundtrip_ssh1 (n : Nat) :
    ((Gen.Logic.create_mpint (n : Int) false (Wire.bitLen n : Int)).bind fun d => Gen.Logic.parse_mpint d [0] ['>', 'I']) = some (n : Int) := by
  have h := create_mpint_eq_model (n : Int) false
  simp only [Int.natAbs_natCast, Bool.false_eq_true, if_false] at h
  rw [h, Option.bind_some, parse_unsigned, Wire.createMpintI_nat, C10.createMpintU_eq, ← Wire.ofBE_natsOf,
    Wire.natsOf_bytesOf _ (Wire.minBE_lt n), Wire.ofBE_minBE]

end SshAudit.GenLogic
