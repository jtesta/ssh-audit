/-
  C05 (extension) — the policy-file *text* path: `Policy.create` followed by the line parser of `Policy.__init__`.  The `if / elif`
  chain of `dispatch` is read as a classification of the key (`branchOf`) followed by an action (`runBranch`); the keys `Policy.create`
  writes are classified once, by evaluation.  The boolean flags are sticky: a later `= false` does not reset them — this is what the code does.
-/
import SshAudit.Props.C05
import SshAudit.Lemmas.Json
namespace SshAudit.C05File
open SshAudit SshAudit.Pol SshAudit.PolicyFile SshAudit.PolicyFile.Json

def AllSp (l : Str) : Prop := ∀ c ∈ l, Text.isUSpace c = true
def Tight (m : Str) : Prop := (∀ c t, m = c :: t → Text.isUSpace c = false) ∧ (∀ t c, m = t ++ [c] → Text.isUSpace c = false)

theorem AllSp.reverse {a : Str} (ha : AllSp a) : AllSp a.reverse := fun c hc => ha c (List.mem_reverse.mp hc)

/-- **`strip()` specification**: white space around a tight core is removed, nothing else -/
theorem stripU_spec (a m b : Str) (ha : AllSp a) (hb : AllSp b) (hm : Tight m) : Text.stripU (a ++ m ++ b) = m :=
  Text.stripBy_sandwich ha hb hm

theorem stripU_decomp (l : Str) : ∃ a b, AllSp a ∧ AllSp b ∧ Tight (Text.stripU l) ∧ l = a ++ Text.stripU l ++ b :=
  Text.stripBy_decomp _ l

theorem stripU_idem (l : Str) : Text.stripU (Text.stripU l) = Text.stripU l := Text.stripBy_idem _ l

theorem tight_of_stripU_eq {n : Str} (h : Text.stripU n = n) : Tight n := h ▸ Text.stripBy_tight _ n

theorem stripU_allSp_left (a l : Str) (ha : AllSp a) : Text.stripU (a ++ l) = Text.stripU l := Text.stripBy_append_left ha l

/-- **any amount of white space around the key, the `=` and the value is immaterial**, and only the first `=` splits -/
theorem splitKV_general (k v : Str) (hk : '=' ∉ k) :
    ∃ k' v', splitEq1 (Text.stripU (k ++ '=' :: v)) = some (k', v') ∧ Text.stripU k' = Text.stripU k ∧ Text.stripU v' = Text.stripU v := by
  refine ⟨k.dropWhile Text.isUSpace, Text.rstripBy Text.isUSpace v, ?_, Text.stripBy_dropWhile _ k, Text.stripBy_rstripBy _ v⟩
  rw [Text.stripU_eq, Text.stripBy_append_cons (by decide) k v]
  apply C05.splitEq1_append
  intro h
  exact hk ((List.dropWhile_sublist _).mem h)

/-- **the lines of a text made by joining newline-free lines are those lines** (stated for any separator `c`) -/
theorem splitOn_join_newline (c : Char) (lines : List Str) (hne : lines ≠ []) (h : ∀ l ∈ lines, c ∉ l) :
    Text.splitOn c (Text.join [c] lines) = lines :=
  Text.splitOn_join c hne h

theorem allSp_blank : AllSp [' '] := by intro c hc; simp at hc; rw [hc]; decide

theorem allSp_not_mem {a : Str} (ha : AllSp a) {c : Char} (hc : Text.isUSpace c = false) : c ∉ a := by
  intro h; have := ha c h; rw [hc] at this; exact absurd this (by simp)

theorem parseAlgs_stripU (v : Str) : PolicyFile.parseAlgs (Text.stripU v) = PolicyFile.parseAlgs v := by
  unfold PolicyFile.parseAlgs
  obtain ⟨a, b, ha, hb, _, h⟩ := stripU_decomp v
  have hcomma : Text.isUSpace ',' = false := by decide
  -- `v` is its stripped core between two runs of blanks; neither run holds a comma, and `strip()` of a piece removes it
  conv => rhs; rw [h, List.append_assoc]
  rw [Text.map_splitOn_append_left (allSp_not_mem ha hcomma) (fun p => stripU_allSp_left a p ha),
    Text.map_splitOn_append_right (allSp_not_mem hb hcomma) (fun p => by rw [Text.stripU_eq, Text.stripBy_append_right p hb])]

/-- a name the list syntax can carry -/
def WfName (n : Str) : Prop := ',' ∉ n ∧ Text.stripU n = n

/-- **`', '.join(names)` parses back to `names`** (the value may be stripped first, as the parser does) -/
theorem parseAlgs_join (names : List Str) (hne : names ≠ []) (h : ∀ n ∈ names, WfName n) :
    PolicyFile.parseAlgs (Text.stripU (Text.join listSep names)) = names := by
  obtain ⟨n, ns, rfl⟩ := List.exists_cons_of_ne_nil hne
  -- the separator is a comma and a blank: the pieces after the first begin with the blank, which `strip()` removes
  rw [parseAlgs_stripU, PolicyFile.parseAlgs, show listSep = ',' :: [' '] from rfl,
    Text.splitOn_join_pad ',' (by decide) (h n (by simp)).1 (fun y hy => (h y (List.mem_cons_of_mem _ hy)).1),
    List.map_cons, (h n (by simp)).2, List.map_map]
  congr 1
  exact (List.map_congr_left fun y hy => (stripU_allSp_left [' '] y allSp_blank).trans (h y (List.mem_cons_of_mem _ hy)).2).trans (List.map_id _)

theorem parseStrBody_esc (f : Nat) (c : Char) (t : Str) : parseStrBody (f + 1) (escJ c ++ t) = consChar c (parseStrBody f t) :=
  parseStrBody_escJ f c t

/-- **a string written by `json.dumps` reads back as itself** — every Unicode scalar value, escapes and surrogate pairs included -/
theorem parseStrBody_dumpStr (v t : Str) : parseStr (escBody v ++ '"' :: t) = .ok (v, t) := parseStr_escBody v t

/-- a delimiter that may follow a value inside an object -/
def IsDelim (c : Char) : Prop := c = ',' ∨ c = '}'

/-- **a non-negative integer written by `json.dumps` reads back**, up to the delimiter that follows it -/
theorem parseNum_natToStr (n : Nat) (c : Char) (t : Str) (hc : IsDelim c) :
    parseNum false (Text.natToStr n ++ c :: t) = .ok (.int n, c :: t) :=
  parseNum_nat false n (c :: t) (numEnd_delim hc t)

theorem dumpStr_head (k : Str) : ∃ r, dumpStr k = '"' :: r := ⟨_, rfl⟩

/-- the object `{"hostkey_size": n[, "ca_key_type": s, "ca_key_size": m]}` as a JSON value -/
def jvHKS (h : HKS) : JV :=
  if h.caType = [] ∨ h.caSize = 0 then .obj [(kHostkeySize, .int h.size)]
  else .obj [(kHostkeySize, .int h.size), (kCaKeyType, .str h.caType), (kCaKeySize, .int h.caSize)]

theorem jvHKS_eq (h : HKS) : jvHKS h = .obj ((hksFields h).map (fun kv => (kv.1, Sum.elim (fun n : Nat => JV.int n) JV.str kv.2))) := by
  unfold jvHKS hksFields
  split <;> rfl

/-- fuel 5: one for the braces, one per field (at most three), one for a field's scalar value -/
theorem parseValue_dumpHKS (f : Nat) (h : HKS) (c : Char) (t : Str) (hf : 5 ≤ f) :
    parseValue f (dumpHKS h ++ c :: t) = .ok (jvHKS h, c :: t) := by
  rw [dumpHKS_eq, jvHKS_eq]
  refine parseValue_dumpDict (readsBack_nat.sum readsBack_str) _ ?_ _ f ?_
  · unfold hksFields; split <;> simp
  · unfold hksFields; split <;> simp <;> omega

theorem readsBack_hks : ReadsBack dumpHKS jvHKS 5 :=
  ⟨fun h t => by rw [dumpHKS_eq]; exact skipWs_nonws '{' _ (by decide), fun h c t f _ hf => parseValue_dumpHKS f h c t hf⟩

theorem loads_dumpDict {α} (pr : α → Str) (jv : α → JV) (F : Nat)
    (hhead : ∀ a, ∃ x r, pr a = x :: r ∧ isWs x = false)
    (hv : ∀ a c t f, IsDelim c → F ≤ f → parseValue f (pr a ++ c :: t) = .ok (jv a, c :: t))
    (d : List (Str × α)) (hne : d ≠ []) (hF : F ≤ 5) :
    loads (dumpDict pr d) = .ok (.obj (d.map (fun kv => (kv.1, jv kv.2)))) := by
  refine loads_dumpDict_of ⟨fun a t => ?_, hv⟩ d hne hF
  obtain ⟨x, r, hx, hxw⟩ := hhead a
  rw [hx]; exact skipWs_nonws x _ hxw

/-- **`json.loads(json.dumps(host_keys_trimmed))`** -/
theorem loads_dumpHostKeys (d : List (Str × HKS)) (hne : d ≠ []) :
    loads (dumpHostKeys d) = .ok (.obj (d.map (fun kv => (kv.1, jvHKS kv.2)))) :=
  loads_dumpDict_of readsBack_hks d hne (Nat.le_refl _)

/-- **`json.loads(json.dumps(kex.dh_modulus_sizes()))`** -/
theorem loads_dumpDh (d : List (Str × Nat)) (hne : d ≠ []) :
    loads (dumpDh d) = .ok (.obj (d.map (fun kv => (kv.1, JV.int kv.2)))) :=
  loads_dumpDict_of readsBack_nat d hne (by decide)

theorem dictOf_nodup {α} (kvs : List (Str × α)) (h : (kvs.map (·.1)).Nodup) : dictOf kvs = kvs := dictOf_of_nodup kvs h

theorem natOf_int (n : Nat) : natOf (.int n) = some n := by simp [natOf]

theorem hksOfJson_jvHKS (h : HKS) : hksOfJson (jvHKS h) = some (normHKS h) := by
  have hnd : [kHostkeySize, kCaKeyType, kCaKeySize].Nodup := by decide +kernel
  have ⟨k12, k13, k23⟩ : kHostkeySize ≠ kCaKeyType ∧ kHostkeySize ≠ kCaKeySize ∧ kCaKeyType ≠ kCaKeySize := by
    simpa [and_assoc] using hnd
  unfold jvHKS normHKS
  split
  · next hc =>
    have e : dictOf [(kHostkeySize, JV.int h.size)] = [(kHostkeySize, JV.int h.size)] := rfl
    simp [hksOfJson, e, Pol.lookup, natOf_int, k12, k13]
  · next hc =>
    have e : dictOf [(kHostkeySize, JV.int h.size), (kCaKeyType, JV.str h.caType), (kCaKeySize, JV.int h.caSize)]
        = [(kHostkeySize, JV.int h.size), (kCaKeyType, JV.str h.caType), (kCaKeySize, JV.int h.caSize)] :=
      dictOf_of_nodup _ hnd
    simp [hksOfJson, e, Pol.lookup, natOf_int, k12, k13, k23]

theorem mapM_hks (d : List (Str × HKS)) :
    (d.map (fun kv => (kv.1, jvHKS kv.2))).mapM (fun kv => (hksOfJson kv.2).map (fun h => (kv.1, h)))
      = some (d.map (fun kv => (kv.1, normHKS kv.2))) :=
  Text.mapM_map_some (fun kv => by simp [hksOfJson_jvHKS]) d

theorem normValueErr_jvHKS (h : HKS) : normValueErr (jvHKS h) = none := by
  unfold jvHKS; split <;> rfl

/-- **the host-key size map survives `json.dumps` → `json.loads` → `_normalize_hostkey_sizes`** (distinct key types) -/
theorem hksOfJsonTop_dump (d : List (Str × HKS)) (hnd : (d.map (·.1)).Nodup) :
    hksOfJsonTop (.obj (d.map (fun kv => (kv.1, jvHKS kv.2)))) = .ok (some (d.map (fun kv => (kv.1, normHKS kv.2)))) := by
  have hd := dictOf_map_snd jvHKS hnd
  have herr : (d.map (fun kv => (kv.1, jvHKS kv.2))).filterMap (fun kv => normValueErr kv.2) = [] :=
    List.filterMap_eq_nil_iff.mpr (List.forall_mem_map.mpr fun kv _ => normValueErr_jvHKS kv.2)
  simp only [hksOfJsonTop, hd, herr, mapM_hks]
  simp

theorem mapM_dh (d : List (Str × Nat)) :
    (d.map (fun kv => (kv.1, JV.int kv.2))).mapM (fun kv => (natOf kv.2).map (fun n => (kv.1, n))) = some d := by
  simpa using Text.mapM_map_some (k := id) (fun kv : Str × Nat => by simp [natOf_int]) d

/-- **the modulus size map survives `json.dumps` → `json.loads`** (distinct names) -/
theorem dhOfJson_dump (d : List (Str × Nat)) (hnd : (d.map (·.1)).Nodup) :
    dhOfJson (.obj (d.map (fun kv => (kv.1, JV.int kv.2)))) = .ok (some d) := by
  have hd := dictOf_map_snd (fun n : Nat => JV.int n) hnd
  simp only [dhOfJson, hd, mapM_dh]

/-! The parser, line by line.  Entry points: a line that is passed over — `Skipped.of_allSp`, `Skipped.of_hash`, `step_skipped`,
`parseLines_skip`; a directive line — `step_kv`, `step_created`; a text in two parts — `parseLines_append`; what a run leaves
untouched — `parseLines_frame`; a line inserted into a text — `parse_insert_comment_or_blank`. -/

variable (jl : Str → Except JErr JV)

/-- a line the loop passes over: blank, or a comment -/
def Skipped (l : Str) : Prop := Text.stripU l = [] ∨ ∃ r, Text.stripU l = '#' :: r

theorem stripU_hash (a t : Str) (ha : AllSp a) : Text.stripU (a ++ '#' :: t) = '#' :: Text.rstripBy Text.isUSpace t := by
  rw [Text.stripU_eq, Text.stripBy_append_cons (by decide) a t, Text.dropWhile_of_all ha]
  rfl

theorem Skipped.of_allSp {a : Str} (ha : AllSp a) : Skipped a := .inl (Text.stripBy_of_all ha)

theorem Skipped.of_hash {a : Str} (ha : AllSp a) (t : Str) : Skipped (a ++ '#' :: t) := .inr ⟨_, stripU_hash a t ha⟩

theorem step_skipped (st : PState) (l : Str) (h : Skipped l) : step jl st l = .ok st := by
  rcases h with h | ⟨r, h⟩
  · simp [step, h]
  · simp [step, h, Text.startsWith, List.isPrefixOf]

theorem step_blank (st : PState) (a : Str) (ha : AllSp a) : step jl st a = .ok st :=
  step_skipped jl st a (.of_allSp ha)

theorem step_comment (st : PState) (a t : Str) (ha : AllSp a) : step jl st (a ++ '#' :: t) = .ok st :=
  step_skipped jl st _ (.of_hash ha t)

theorem not_skipped_cond {l : Str} (h : ¬ Skipped l) : ((Text.stripU l).isEmpty || Text.startsWith (Text.stripU l) ['#']) = false := by
  cases hl : Text.stripU l with
  | nil => exact absurd (Or.inl hl) h
  | cons c r =>
    have : c ≠ '#' := fun e => h (Or.inr ⟨r, by rw [hl, e]⟩)
    simp [Text.startsWith, List.isPrefixOf, Ne.symm this]

/-- **a directive line without `=` is rejected** (`could not parse line`) -/
theorem step_noEq (st : PState) (l : Str) (hs : ¬ Skipped l) (h : '=' ∉ l) : step jl st l = .error (.noEq (Text.stripU l)) := by
  obtain ⟨a, b, _, _, _, e⟩ := stripU_decomp l
  have h2 : '=' ∉ Text.stripU l := fun hm => h (by rw [e]; simp [hm])
  simp [step, not_skipped_cond hs, splitEq1_none _ h2]

theorem step_kv (st : PState) (k v : Str) (hk : '=' ∉ k) (hs : ¬ Skipped (k ++ '=' :: v)) :
    step jl st (k ++ '=' :: v) = dispatch jl st (Text.stripU (k ++ '=' :: v)) (Text.stripU k) (Text.stripU v) := by
  obtain ⟨k', v', h1, h2, h3⟩ := splitKV_general k v hk
  simp [step, not_skipped_cond hs, h1, h2, h3]

/-- **a line whose key is not a directive is rejected** (`invalid field found in policy`) -/
theorem step_unknown_key (st : PState) (k v : Str) (hk : '=' ∉ k) (hs : ¬ Skipped (k ++ '=' :: v)) (hbad : keyOk (Text.stripU k) = false) :
    step jl st (k ++ '=' :: v) = .error (.badField (Text.stripU (k ++ '=' :: v))) := by
  rw [step_kv jl st k v hk hs]
  simp [dispatch, hbad]

/-- **an unquoted `name` / `banner` value is rejected** -/
theorem step_unquoted (st : PState) (k v : Str) (hk : '=' ∉ k) (hs : ¬ Skipped (k ++ '=' :: v))
    (hkey : Text.stripU k = kName ∨ Text.stripU k = kBanner) (hlen : 2 ≤ (Text.stripU v).length)
    (hq : (Text.stripU v).head? ≠ some '"' ∨ (Text.stripU v).getLast? ≠ some '"') :
    step jl st (k ++ '=' :: v) = .error (.unquoted (Text.stripU k) (Text.stripU v)) := by
  rw [step_kv jl st k v hk hs]
  have hok : keyOk (Text.stripU k) = true := by rcases hkey with h | h <;> rw [h] <;> decide
  have hl : ¬ (Text.stripU v).length < 2 := by omega
  simp only [dispatch, dQuoted, hok, Bool.not_true, Bool.false_eq_true, if_false, hkey, if_true, hl, hq]

theorem parseLines_skip (st : PState) (l : Str) (ls : List Str) (h : Skipped l) : parseLines jl st (l :: ls) = parseLines jl st ls := by
  simp [parseLines, step_skipped jl st l h]

theorem parseLines_hash (st : PState) (t : Str) (ls : List Str) : parseLines jl st (('#' :: t) :: ls) = parseLines jl st ls :=
  parseLines_skip jl st _ ls (.of_hash (a := []) (fun _ h => nomatch h) t)
theorem parseLines_blank (st : PState) (ls : List Str) : parseLines jl st ([] :: ls) = parseLines jl st ls :=
  parseLines_skip jl st _ ls (.of_allSp fun _ h => nomatch h)

theorem parseLines_ok (st st' : PState) (l : Str) (ls : List Str) (h : step jl st l = .ok st') : parseLines jl st (l :: ls) = parseLines jl st' ls := by
  simp [parseLines, h]

theorem parseLines_append (st : PState) (l1 l2 : List Str) :
    parseLines jl st (l1 ++ l2) = match parseLines jl st l1 with | .ok st' => parseLines jl st' l2 | .error e => .error e := by
  fun_induction parseLines jl st l1 with
  | case1 st => rfl
  | case2 st l ls st1 hs ih => rw [List.cons_append, parseLines, hs]; exact ih
  | case3 st l ls e hs => rw [List.cons_append, parseLines, hs]

/-- **a comment or blank line, anywhere, never changes the result** -/
theorem parseLines_skip_comment_or_blank (st : PState) (l1 l2 : List Str) (c : Str) (hc : Skipped c) :
    parseLines jl st (l1 ++ c :: l2) = parseLines jl st (l1 ++ l2) := by
  rw [parseLines_append, parseLines_append]
  cases parseLines jl st l1 with
  | ok st' => exact parseLines_skip jl st' c l2 hc
  | error e => rfl

/-- a key as `Policy.create` writes it -/
def KeyClean (key : Str) : Prop := '=' ∉ key ∧ Text.stripU key = key ∧ key.head? ≠ some '#'
instance (key : Str) : Decidable (KeyClean key) := by unfold KeyClean; infer_instance

theorem not_skipped_kv (k v : Str) (hk : (k.dropWhile Text.isUSpace).head? ≠ some '#') : ¬ Skipped (k ++ '=' :: v) := by
  have e : Text.stripU (k ++ '=' :: v) = k.dropWhile Text.isUSpace ++ '=' :: Text.rstripBy Text.isUSpace v :=
    Text.stripBy_append_cons (by decide) k v
  rintro (h | ⟨r, h⟩)
  · rw [e] at h; simp at h
  · rw [e] at h
    cases hl : k.dropWhile Text.isUSpace with
    | nil => rw [hl] at h; simp at h
    | cons c cs => rw [hl] at h hk; simp at h hk; exact hk h.1

inductive Branch where
  | bad | quoted | version | compressions | hostKeys | optional | kex | ciphers | macs
  | legacyHostkey | legacyCakey | hostKeySizes | legacyDh | dhSizes | flags
deriving DecidableEq

/-- the conditions of `dispatch`, in its order -/
def branchOf (key : Str) : Branch :=
  if !keyOk key then .bad
  else if key = kName ∨ key = kBanner then .quoted
  else if key = kVersion then .version
  else if key = kCompressions then .compressions
  else if key = kHostKeys then .hostKeys
  else if key = kOptionalHostKeys then .optional
  else if key = kKex then .kex
  else if key = kCiphers then .ciphers
  else if key = kMacs then .macs
  else if Text.startsWith key pfxHostkey then .legacyHostkey
  else if Text.startsWith key pfxCakey then .legacyCakey
  else if key = kHostKeySizes then .hostKeySizes
  else if Text.startsWith key pfxDh then .legacyDh
  else if key = kDhSizes then .dhSizes
  else .flags

def runBranch (jl : Str → Except JErr JV) (st : PState) (line key val : Str) : Branch → Except PFErr PState
  | .bad => .error (.badField line)
  | .quoted => dQuoted st key val
  | .version => .ok { st with version := some val }
  | .compressions => .ok { st with pol := { st.pol with compressions := some (PolicyFile.parseAlgs val) } }
  | .hostKeys => .ok { st with pol := { st.pol with hostKeys := some (PolicyFile.parseAlgs val) } }
  | .optional => .ok { st with pol := { st.pol with optionalHostKeys := some (PolicyFile.parseAlgs val) } }
  | .kex => .ok { st with pol := { st.pol with kex := some (PolicyFile.parseAlgs val) } }
  | .ciphers => .ok { st with pol := { st.pol with ciphers := some (PolicyFile.parseAlgs val) } }
  | .macs => .ok { st with pol := { st.pol with macs := some (PolicyFile.parseAlgs val) } }
  | .legacyHostkey => dLegacyHostkey st key val
  | .legacyCakey => dLegacyCakey st key val
  | .hostKeySizes => dHostKeySizes jl st val
  | .legacyDh => dLegacyDh st key val
  | .dhSizes => dDhSizes jl st val
  | .flags => .ok (dFlags st key val)

theorem dispatch_eq (st : PState) (line key val : Str) :
    dispatch jl st line key val = runBranch jl st line key val (branchOf key) := by
  unfold dispatch branchOf
  simp only [apply_ite (runBranch jl st line key val)]
  rfl

def createdKeys : List (Str × Branch) :=
  [(kName, .quoted), (kBanner, .quoted), (kVersion, .version), (kCompressions, .compressions),
   (kHostKeys, .hostKeys), (kOptionalHostKeys, .optional), (kKex, .kex), (kCiphers, .ciphers), (kMacs, .macs),
   (kHostKeySizes, .hostKeySizes), (kDhSizes, .dhSizes), (kClient, .flags), (kSubset, .flags), (kLarger, .flags)]

theorem created_keys : ∀ p ∈ createdKeys, KeyClean p.1 ∧ branchOf p.1 = p.2 := by
  decide +kernel

theorem step_created (st : PState) (key val : Str) (b : Branch) (h : (key, b) ∈ createdKeys) :
    step jl st (kv key val) = runBranch jl st (Text.stripU (kv key val)) key (Text.stripU val) b := by
  obtain ⟨⟨h1, h2, h3⟩, hb⟩ := created_keys _ h
  have hk : ((key ++ [' ']).dropWhile Text.isUSpace).head? ≠ some '#' := by
    cases key with
    | nil => decide
    | cons c t => simpa [(tight_of_stripU_eq h2).1 c t rfl] using h3
  rw [show kv key val = (key ++ [' ']) ++ '=' :: (' ' :: val) by simp [kv, eqSep],
    step_kv jl st (key ++ [' ']) (' ' :: val) (by simp [h1]) (not_skipped_kv _ _ hk),
    show Text.stripU (key ++ [' ']) = key from (Text.stripBy_append_right key allSp_blank).trans h2,
    show Text.stripU (' ' :: val) = Text.stripU val from stripU_allSp_left [' '] val allSp_blank, dispatch_eq, hb]

theorem stripU_bracketed (o c : Char) (n : Str) (ho : Text.isUSpace o = false) (hc : Text.isUSpace c = false) :
    Text.stripU (o :: (n ++ [c])) = o :: (n ++ [c]) := by
  rw [show Text.stripU (o :: (n ++ [c])) = _ from Text.stripBy_append_cons ho [] (n ++ [c]), Text.rstripBy_append_cons hc n []]
  rfl

theorem unescQuote_id (l : Str) (h : '\\' ∉ l) : unescQuote l = l := by
  induction l using unescQuote.induct with
  | case1 => rfl
  | case2 c => rfl
  | case3 c d rest hc ih => exact absurd (by simp [hc.1]) h
  | case4 c d rest hc ih =>
    have : '\\' ∉ d :: rest := fun hm => h (List.mem_cons_of_mem _ hm)
    simp [unescQuote, hc, ih this]

theorem unescNl_id (l : Str) (h : '\\' ∉ l) : unescNl l = l := by
  induction l using unescNl.induct with
  | case1 => rfl
  | case2 c => rfl
  | case3 c d rest hc ih => exact absurd (by simp [hc.1]) h
  | case4 c d rest hc ih =>
    have : '\\' ∉ d :: rest := fun hm => h (List.mem_cons_of_mem _ hm)
    simp [unescNl, hc, ih this]

theorem dQuoted_quoted (st : PState) (key n : Str) :
    dQuoted st key ('"' :: (n ++ ['"'])) = if key = kName then .ok { st with name := some (unescNl (unescQuote n)) }
      else .ok { st with pol := { st.pol with banner := some (unescNl (unescQuote n)) } } := by
  have hl : ¬ ('"' :: (n ++ ['"'])).length < 2 := by simp
  have hq : ('"' :: (n ++ ['"'])).getLast? = some '"' := by rw [← List.cons_append, List.getLast?_concat]
  have hu : unquote ('"' :: (n ++ ['"'])) = unescNl (unescQuote n) := by simp [unquote]
  simp only [dQuoted, hl, if_false, List.head?_cons, hq, ne_eq, not_true_eq_false, or_self, hu]

theorem step_flag_false (st : PState) (key : Str) (h : (key, .flags) ∈ createdKeys) : step jl st (kv key (s "false")) = .ok st := by
  have : (Text.lower (Text.stripU (s "false")) == vTrue) = false := by decide +kernel
  rw [step_created jl st _ _ _ h, runBranch, dFlags]
  simp only [this, Bool.and_false, Bool.false_eq_true, if_false]

theorem step_client_true (st : PState) : step jl st (kv kClient vTrue) = .ok { st with serverPolicy := false } := by
  rw [step_created jl st _ _ .flags (by simp [createdKeys]), runBranch, dFlags]
  have : (Text.startsWith kClient kClient && Text.lower (Text.stripU vTrue) == vTrue) = true := by decide +kernel
  rw [if_pos this]

/-- **the last occurrence of a name-list directive wins**: after a `host keys = …` line the list is that line's, whatever it was -/
theorem last_list_directive_wins (st : PState) (v : Str) :
    step jl st (kv kHostKeys v) = .ok { st with pol := { st.pol with hostKeys := some (PolicyFile.parseAlgs v) } } ∧
    step jl st (kv kKex v) = .ok { st with pol := { st.pol with kex := some (PolicyFile.parseAlgs v) } } ∧
    step jl st (kv kCiphers v) = .ok { st with pol := { st.pol with ciphers := some (PolicyFile.parseAlgs v) } } ∧
    step jl st (kv kMacs v) = .ok { st with pol := { st.pol with macs := some (PolicyFile.parseAlgs v) } } ∧
    step jl st (kv kCompressions v) = .ok { st with pol := { st.pol with compressions := some (PolicyFile.parseAlgs v) } } ∧
    step jl st (kv kOptionalHostKeys v) = .ok { st with pol := { st.pol with optionalHostKeys := some (PolicyFile.parseAlgs v) } } := by
  refine ⟨?_, ?_, ?_, ?_, ?_, ?_⟩
  · rw [step_created jl st _ v .hostKeys (by simp [createdKeys]), runBranch, parseAlgs_stripU]
  · rw [step_created jl st _ v .kex (by simp [createdKeys]), runBranch, parseAlgs_stripU]
  · rw [step_created jl st _ v .ciphers (by simp [createdKeys]), runBranch, parseAlgs_stripU]
  · rw [step_created jl st _ v .macs (by simp [createdKeys]), runBranch, parseAlgs_stripU]
  · rw [step_created jl st _ v .compressions (by simp [createdKeys]), runBranch, parseAlgs_stripU]
  · rw [step_created jl st _ v .optional (by simp [createdKeys]), runBranch, parseAlgs_stripU]

/-- **the last `name` / `version` / `banner` wins** -/
theorem last_name_wins (st : PState) (n v : Str) :
    step jl st (kv kName ('"' :: (n ++ ['"']))) = .ok { st with name := some (unescNl (unescQuote n)) } ∧
    step jl st (kv kVersion v) = .ok { st with version := some (Text.stripU v) } ∧
    step jl st (kv kBanner ('"' :: (n ++ ['"']))) = .ok { st with pol := { st.pol with banner := some (unescNl (unescQuote n)) } } := by
  have hq := stripU_bracketed '"' '"' n (by decide) (by decide)
  refine ⟨?_, ?_, ?_⟩
  · rw [step_created jl st _ _ .quoted (by simp [createdKeys]), hq, runBranch, dQuoted_quoted, if_pos rfl]
  · rw [step_created jl st _ _ .version (by simp [createdKeys]), runBranch]
  · rw [step_created jl st _ _ .quoted (by simp [createdKeys]), hq, runBranch, dQuoted_quoted, if_neg (by decide +kernel)]

theorem wfNames_parse (names : List Str) (hne : names ≠ []) (h : ∀ n ∈ names, WfName n) :
    PolicyFile.parseAlgs (listVal true names) = names := by
  have := parseAlgs_join names hne h
  rw [parseAlgs_stripU] at this
  simpa [listVal] using this

theorem stripU_dumpDict {α} (pr : α → Str) (d : List (Str × α)) : Text.stripU (dumpDict pr d) = dumpDict pr d :=
  stripU_bracketed '{' '}' _ (by decide) (by decide)

theorem step_hostKeySizes_line (st : PState) (d : List (Str × HKS)) (hnd : (d.map (·.1)).Nodup)
    (hj : jl (dumpHostKeys d) = .ok (.obj (d.map (fun kv => (kv.1, jvHKS kv.2))))) :
    step jl st (kv kHostKeySizes (dumpHostKeys d)) = .ok { st with pol := { st.pol with hostkeySizes := some (d.map (fun kv => (kv.1, normHKS kv.2))) } } := by
  rw [step_created jl st _ _ .hostKeySizes (by simp [createdKeys]),
    show Text.stripU (dumpHostKeys d) = dumpHostKeys d from stripU_dumpDict dumpHKS d, runBranch, dHostKeySizes, hj]
  simp only [hksOfJsonTop_dump d hnd]

theorem step_dhSizes_line (st : PState) (d : List (Str × Nat)) (hnd : (d.map (·.1)).Nodup)
    (hj : jl (dumpDh d) = .ok (.obj (d.map (fun kv => (kv.1, JV.int kv.2))))) :
    step jl st (kv kDhSizes (dumpDh d)) = .ok { st with pol := { st.pol with dhSizes := some d } } := by
  rw [step_created jl st _ _ .dhSizes (by simp [createdKeys]),
    show Text.stripU (dumpDh d) = dumpDh d from stripU_dumpDict Text.natToStr d, runBranch, dDhSizes, hj]
  simp only [dhOfJson_dump d hnd]

/-- the peers the text format can carry (the property's quantifier, made exact) -/
structure WfPeer (peer : Peer) : Prop where
  hasKex : peer.hasKex = true
  keyNe : peer.key ≠ []
  kexNe : peer.kex ≠ []
  encNe : peer.enc ≠ []
  macNe : peer.mac ≠ []
  key : ∀ n ∈ peer.key, WfName n
  kex : ∀ n ∈ peer.kex, WfName n
  enc : ∀ n ∈ peer.enc, WfName n
  mac : ∀ n ∈ peer.mac, WfName n
  hkNodup : (peer.hostKeys.map (·.1)).Nodup
  dhNodup : (peer.dhSizes.map (·.1)).Nodup

/-- `json.loads` reads back the two dumped size maps -/
def LoadsOk (jl : Str → Except JErr JV) (peer : Peer) : Prop :=
  (peer.hostKeys ≠ [] → jl (dumpHostKeys peer.hostKeys) = .ok (.obj (peer.hostKeys.map (fun kv => (kv.1, jvHKS kv.2))))) ∧
  (peer.dhSizes ≠ [] → jl (dumpDh peer.dhSizes) = .ok (.obj (peer.dhSizes.map (fun kv => (kv.1, JV.int kv.2)))))

def madeName (source today : Str) : Str := unescNl (unescQuote (nameVal source today))

/-- what the parser makes of the text written for `peer`: the name lists joined with `, ` and split at `,` again -/
def readBack (peer : Peer) : Policy :=
  { policyOf peer with
    hostKeys := some (PolicyFile.parseAlgs (listVal true peer.key))
    kex := some (PolicyFile.parseAlgs (listVal true peer.kex))
    ciphers := some (PolicyFile.parseAlgs (listVal true peer.enc))
    macs := some (PolicyFile.parseAlgs (listVal true peer.mac)) }

theorem readBack_of_wf {peer : Peer} (hw : WfPeer peer) : readBack peer = policyOf peer := by
  rw [readBack, wfNames_parse _ hw.keyNe hw.key, wfNames_parse _ hw.kexNe hw.kex, wfNames_parse _ hw.encNe hw.enc, wfNames_parse _ hw.macNe hw.mac]
  rfl

theorem parseLines_createLines_gen (source today : Str) (peer : Peer) (ca : Bool) (hk : peer.hasKex = true)
    (hkNodup : (peer.hostKeys.map (·.1)).Nodup) (dhNodup : (peer.dhSizes.map (·.1)).Nodup) (hl : LoadsOk jl peer) :
    parseLines jl {} (createLines source today peer ca)
      = .ok { name := some (madeName source today), version := some ['1'], pol := readBack peer, serverPolicy := !ca } := by
  have c1 : ∀ rest, parseLines jl {} (clientChunk ca ++ rest) = parseLines jl { serverPolicy := !ca } rest := by
    intro rest
    cases ca
    · simp [clientChunk]
    · simp only [clientChunk, if_true, List.cons_append, List.nil_append, parseLines_hash, parseLines_blank]
      rw [parseLines_ok jl _ _ _ _ (step_client_true jl _)]; rfl
  have c2 : ∀ st rest, parseLines jl st (hostKeysChunk peer ++ rest)
      = parseLines jl { st with pol := { st.pol with hostkeySizes := if peer.hostKeys = [] then st.pol.hostkeySizes else some (peer.hostKeys.map (fun kv => (kv.1, normHKS kv.2))) } } rest := by
    intro st rest
    by_cases h : peer.hostKeys = []
    · simp [hostKeysChunk, h]
    · simp only [hostKeysChunk, hk, h, ne_eq, not_false_eq_true, and_self, if_true, if_false, List.cons_append, List.nil_append, parseLines_hash, parseLines_blank]
      rw [parseLines_ok jl _ _ _ _ (step_hostKeySizes_line jl _ _ hkNodup (hl.1 h))]
  have c3 : ∀ st rest, parseLines jl st (dhChunk peer ++ rest)
      = parseLines jl { st with pol := { st.pol with dhSizes := if peer.dhSizes = [] then st.pol.dhSizes else some peer.dhSizes } } rest := by
    intro st rest
    by_cases h : peer.dhSizes = []
    · simp [dhChunk, h]
    · simp only [dhChunk, hk, h, ne_eq, not_false_eq_true, and_self, if_true, if_false, List.cons_append, List.nil_append, parseLines_hash, parseLines_blank]
      rw [parseLines_ok jl _ _ _ _ (step_dhSizes_line jl _ _ dhNodup (hl.2 h))]
  have e1 : Text.stripU ['1'] = ['1'] := by decide
  have sName := fun st n ls => parseLines_ok jl st _ _ ls (last_name_wins jl st n []).1
  have sVersion := fun st v ls => parseLines_ok jl st _ _ ls (last_name_wins jl st [] v).2.1
  have sSubset := fun st ls => parseLines_ok jl st _ _ ls (step_flag_false jl st kSubset (by simp [createdKeys]))
  have sLarger := fun st ls => parseLines_ok jl st _ _ ls (step_flag_false jl st kLarger (by simp [createdKeys]))
  have sHostKeys := fun st v ls => parseLines_ok jl st _ _ ls (last_list_directive_wins jl st v).1
  have sKex := fun st v ls => parseLines_ok jl st _ _ ls (last_list_directive_wins jl st v).2.1
  have sCiphers := fun st v ls => parseLines_ok jl st _ _ ls (last_list_directive_wins jl st v).2.2.1
  have sMacs := fun st v ls => parseLines_ok jl st _ _ ls (last_list_directive_wins jl st v).2.2.2.1
  unfold createLines
  -- line by line: comment and blank lines are skipped, the optional chunks are `c1`–`c3`
  simp only [List.cons_append, List.nil_append, List.append_assoc, parseLines_hash, parseLines_blank, c1, c2, c3,
    sName, sVersion, sSubset, sLarger, sHostKeys, sKex, sCiphers, sMacs]
  simp only [parseLines, hk, e1, madeName, policyOf, readBack]

theorem parseLines_createLines (source today : Str) (peer : Peer) (ca : Bool) (hw : WfPeer peer) (hl : LoadsOk jl peer) :
    parseLines jl {} (createLines source today peer ca)
      = .ok { name := some (madeName source today), version := some ['1'], pol := policyOf peer, serverPolicy := !ca } := by
  rw [parseLines_createLines_gen jl source today peer ca hw.hasKex hw.hkNodup hw.dhNodup hl, readBack_of_wf hw]

theorem loadsOk_loads (peer : Peer) : LoadsOk Json.loads peer :=
  ⟨fun h => loads_dumpHostKeys _ h, fun h => loads_dumpDh _ h⟩

/-- the text is one line -/
def NoNl (l : Str) : Prop := '\n' ∉ l
instance (l : Str) : Decidable (NoNl l) := by unfold NoNl; infer_instance

theorem noNl_of_ascii {l : Str} (h : ∀ x ∈ l, PrintableAscii x) : NoNl l := fun hm => absurd (h _ hm).1 (by decide)

/-- what the substituted texts must not contain for the text to have the lines `createLines` lists -/
structure WfText (source today : Str) (peer : Peer) : Prop where
  source : NoNl source
  today : NoNl today
  banner : NoNl peer.bannerStr
  comp : ∀ n ∈ peer.comp, NoNl n
  key : ∀ n ∈ peer.key, NoNl n
  kex : ∀ n ∈ peer.kex, NoNl n
  enc : ∀ n ∈ peer.enc, NoNl n
  mac : ∀ n ∈ peer.mac, NoNl n

theorem noNl_listVal (b : Bool) (names : List Str) (h : ∀ n ∈ names, NoNl n) : NoNl (listVal b names) := by
  unfold listVal
  split
  · intro hm
    rcases Text.mem_join hm with h1 | ⟨l, hl, h2⟩
    · exact absurd h1 (by decide)
    · exact h l hl h2
  · decide

theorem createLines_noNl (source today : Str) (peer : Peer) (ca : Bool) (hw : WfText source today peer) :
    ∀ l ∈ createLines source today peer ca, NoNl l := by
  have hs := hw.source
  have ht := hw.today
  have hb := hw.banner
  have h1 := noNl_listVal peer.hasKex _ hw.comp
  have h2 := noNl_listVal peer.hasKex _ hw.key
  have h3 := noNl_listVal peer.hasKex _ hw.kex
  have h4 := noNl_listVal peer.hasKex _ hw.enc
  have h5 := noNl_listVal peer.hasKex _ hw.mac
  have h6 : NoNl (dumpHostKeys peer.hostKeys) := noNl_of_ascii (dumpDict_ascii dumpHKS_ascii _)
  have h7 : NoNl (dumpDh peer.dhSizes) := noNl_of_ascii (dumpDict_ascii natToStr_ascii _)
  -- one statement per line, then one per text the line is made of; the substituted texts are the hypotheses
  simp only [createLines, clientChunk, hostKeysChunk, dhChunk, List.forall_mem_append, List.forall_mem_cons, Text.forall_mem_ite]
  unfold NoNl at *
  simp only [nameVal, kv, eqSep, List.mem_append, List.mem_cons, not_or, hs, ht, hb, h1, h2, h3, h4, h5, h6, h7,
    not_false_eq_true, and_true, true_and, List.not_mem_nil, false_imp_iff, implies_true]
  -- what is left are the fixed texts of the template
  and_intros
  all_goals intros
  all_goals decide +kernel

theorem lines_of_create (source today : Str) (peer : Peer) (ca : Bool) (ht : WfText source today peer) :
    Text.splitOn '\n' (create source today peer ca) = createLines source today peer ca :=
  Text.splitOn_join '\n' (by simp [createLines]) (createLines_noNl source today peer ca ht)

/-- **the text `-M` writes, loaded back, for any target with a key exchange**: nothing is asked of the names -/
theorem parseWith_create (jl : Str → Except JErr JV) (source today : Str) (peer : Peer) (ca : Bool) (hk : peer.hasKex = true)
    (hkNodup : (peer.hostKeys.map (·.1)).Nodup) (dhNodup : (peer.dhSizes.map (·.1)).Nodup) (ht : WfText source today peer) (hl : LoadsOk jl peer) :
    parseWith jl (create source today peer ca)
      = .ok { name := madeName source today, version := ['1'], pol := readBack peer, serverPolicy := !ca, warnings := 0 } := by
  unfold parseWith
  rw [lines_of_create source today peer ca ht, parseLines_createLines_gen jl source today peer ca hk hkNodup dhNodup hl]
  rfl

/-- the text path for any `json.loads` that reads the two dumped maps back (`ca`, here and below: a client audit, `-c`) -/
theorem parse_create_with (jl : Str → Except JErr JV) (source today : Str) (peer : Peer) (ca : Bool)
    (hw : WfPeer peer) (ht : WfText source today peer) (hl : LoadsOk jl peer) :
    parseWith jl (create source today peer ca)
      = .ok { name := madeName source today, version := ['1'], pol := policyOf peer, serverPolicy := !ca, warnings := 0 } := by
  rw [parseWith_create jl source today peer ca hw.hasKex hw.hkNodup hw.dhNodup ht hl, readBack_of_wf hw]

theorem parse_create_role (source today : Str) (peer : Peer) (client : Bool) (hw : WfPeer peer) (ht : WfText source today peer) :
    parse (create source today peer client)
      = .ok { name := madeName source today, version := ['1'], pol := policyOf peer, serverPolicy := !client, warnings := 0 } :=
  parse_create_with Json.loads source today peer client hw ht (loadsOk_loads peer)

/-- **loading the text `-M` writes gives exactly the policy of the peer** — every well-formed peer (names may hold `=`,
    non-ASCII characters, quotes; no comma, no newline, no blank at either end), any size maps; the name is
    `Custom Policy (based on <source> on <date>)` (unescaped), the version `1`. -/
theorem parse_create (source today : Str) (peer : Peer) (hw : WfPeer peer) (ht : WfText source today peer) :
    parse (create source today peer false)
      = .ok { name := madeName source today, version := ['1'], pol := policyOf peer, serverPolicy := true, warnings := 0 } :=
  parse_create_role source today peer false hw ht

/-- a client audit (`-M` with `-c`) gives the same policy, marked as a client policy -/
theorem parse_create_client (source today : Str) (peer : Peer) (hw : WfPeer peer) (ht : WfText source today peer) :
    parse (create source today peer true)
      = .ok { name := madeName source today, version := ['1'], pol := policyOf peer, serverPolicy := false, warnings := 0 } :=
  parse_create_role source today peer true hw ht

/-- without a backslash in the target name the loaded policy name is literally `Custom Policy (based on … on …)` -/
theorem madeName_plain (source today : Str) (hs : '\\' ∉ source) (ht : '\\' ∉ today) : madeName source today = nameVal source today := by
  have h : '\\' ∉ nameVal source today := by
    unfold nameVal
    simp only [List.mem_append, not_or]
    exact ⟨⟨⟨⟨by decide +kernel, hs⟩, by decide +kernel⟩, ht⟩, by decide +kernel⟩
  unfold madeName
  rw [unescQuote_id _ h, unescNl_id _ h]

/-- **C05 for the text path: the policy file made from a target, loaded back, passes on that target with no errors** -/
theorem made_text_policy_passes (source today : Str) (peer : Peer) (ca : Bool) (hw : WfPeer peer) (ht : WfText source today peer) :
    ∃ r, parse (create source today peer ca) = .ok r ∧ (evaluate r.pol peer []).1 = true ∧ (evaluate r.pol peer []).2 = [] := by
  exact ⟨_, parse_create_role source today peer ca hw ht, C05.made_policy_verdict peer⟩

/-- **… and fails, naming the field, on a target whose key-exchange list differs** (likewise host keys, ciphers, MACs) -/
theorem made_text_policy_drift_kex (source today : Str) (peer peer' : Peer) (ca : Bool) (hw : WfPeer peer) (ht : WfText source today peer)
    (hk : peer'.hasKex = true) (hd : peer'.kex ≠ peer.kex) :
    ∃ r, parse (create source today peer ca) = .ok r ∧ (evaluate r.pol peer' []).1 = false ∧
      ∃ e ∈ (evaluate r.pol peer' []).2, e.field = s "Key exchanges" ∧ e.expectedRequired = peer.kex ∧ e.actual = peer'.kex :=
  ⟨_, parse_create_role source today peer ca hw ht, C05.drift_kex peer peer' hk hd⟩

theorem made_text_policy_drift_hostkeys (source today : Str) (peer peer' : Peer) (ca : Bool) (hw : WfPeer peer) (ht : WfText source today peer)
    (hk : peer'.hasKex = true) (hd : peer'.key ≠ peer.key) :
    ∃ r, parse (create source today peer ca) = .ok r ∧ (evaluate r.pol peer' []).1 = false ∧
      ∃ e ∈ (evaluate r.pol peer' []).2, e.field = s "Host keys" ∧ e.expectedRequired = peer.key ∧ e.actual = peer'.key :=
  ⟨_, parse_create_role source today peer ca hw ht, C05.drift_hostkeys peer peer' hk hd⟩

theorem made_text_policy_drift_ciphers (source today : Str) (peer peer' : Peer) (ca : Bool) (hw : WfPeer peer) (ht : WfText source today peer)
    (hk : peer'.hasKex = true) (hd : peer'.enc ≠ peer.enc) :
    ∃ r, parse (create source today peer ca) = .ok r ∧ (evaluate r.pol peer' []).1 = false ∧
      ∃ e ∈ (evaluate r.pol peer' []).2, e.field = s "Ciphers" ∧ e.expectedRequired = peer.enc ∧ e.actual = peer'.enc :=
  ⟨_, parse_create_role source today peer ca hw ht, C05.drift_ciphers peer peer' hk hd⟩

theorem made_text_policy_drift_macs (source today : Str) (peer peer' : Peer) (ca : Bool) (hw : WfPeer peer) (ht : WfText source today peer)
    (hk : peer'.hasKex = true) (hd : peer'.mac ≠ peer.mac) :
    ∃ r, parse (create source today peer ca) = .ok r ∧ (evaluate r.pol peer' []).1 = false ∧
      ∃ e ∈ (evaluate r.pol peer' []).2, e.field = s "MACs" ∧ e.expectedRequired = peer.mac ∧ e.actual = peer'.mac :=
  ⟨_, parse_create_role source today peer ca hw ht, C05.drift_macs peer peer' hk hd⟩

/-- sizes: a different host-key size, CA type / size or modulus size (both measured) fails the loaded text policy -/
theorem made_text_policy_drift_sizes (source today : Str) (peer peer' : Peer) (ca : Bool) (hw : WfPeer peer) (ht : WfText source today peer)
    (hk : peer'.hasKex = true) :
    ∃ r, parse (create source today peer ca) = .ok r ∧
      (∀ t a a', lookup peer.hostKeys t = some a → lookup peer'.hostKeys t = some a' → a'.size ≠ a.size → (evaluate r.pol peer' []).1 = false) ∧
      (∀ t a a', lookup peer.hostKeys t = some a → lookup peer'.hostKeys t = some a' → (a.caType ≠ [] ∧ 0 < a.caSize) →
          (a'.caType ≠ a.caType ∨ a'.caSize ≠ a.caSize) → (evaluate r.pol peer' []).1 = false) ∧
      (∀ t a a', lookup peer.dhSizes t = some a → lookup peer'.dhSizes t = some a' → a' ≠ a → (evaluate r.pol peer' []).1 = false) :=
  ⟨_, parse_create_role source today peer ca hw ht,
    fun t a a' h1 h2 hd => C05.drift_hostkey_size peer peer' hk t a a' h1 h2 hd,
    fun t a a' h1 h2 hca hd => C05.drift_ca peer peer' hk t a a' h1 h2 hca hd,
    fun t a a' h1 h2 hd => C05.drift_modulus peer peer' hk t a a' h1 h2 hd⟩

/-- `l` is a `key = …` line -/
def IsDirective (key l : Str) : Prop := ∃ k v, splitEq1 (Text.stripU l) = some (k, v) ∧ Text.stripU k = key

theorem branchOf_version {key : Str} (h : branchOf key = .version) : key = kVersion := by
  by_cases hne : key = kVersion
  · exact hne
  · -- with the `version` test failing, every branch of the chain answers something else
    simp only [branchOf, apply_ite (fun b => b = Branch.version), hne, reduceCtorEq, ite_self, if_false] at h

/-- what parsing leaves untouched; `nm`, `ver`: the exceptions for the name and the version -/
structure FrameP (nm ver : Prop) (st st' : PState) : Prop where
  larger : st.pol.allowLarger = true → st'.pol.allowLarger = true
  subset : st.pol.allowSubset = true → st'.pol.allowSubset = true
  client : st.serverPolicy = false → st'.serverPolicy = false
  name : ¬ nm → st'.name = st.name
  version : ¬ ver → st'.version = st.version

theorem FrameP.refl (nm ver : Prop) (st : PState) : FrameP nm ver st st := ⟨id, id, id, fun _ => rfl, fun _ => rfl⟩

theorem FrameP.trans {nm ver nm' ver' : Prop} {a b c : PState} (h1 : FrameP nm ver a b) (h2 : FrameP nm' ver' b c) :
    FrameP (nm ∨ nm') (ver ∨ ver') a c :=
  ⟨h2.larger ∘ h1.larger, h2.subset ∘ h1.subset, h2.client ∘ h1.client,
   fun hn => (h2.name fun e => hn (.inr e)).trans (h1.name fun e => hn (.inl e)),
   fun hn => (h2.version fun e => hn (.inr e)).trans (h1.version fun e => hn (.inl e))⟩

theorem FrameP.mono {nm ver nm' ver' : Prop} {a b : PState} (h : FrameP nm ver a b) (hn : nm → nm') (hv : ver → ver') : FrameP nm' ver' a b :=
  ⟨h.larger, h.subset, h.client, fun e => h.name (e ∘ hn), fun e => h.version (e ∘ hv)⟩

theorem runBranch_frame (st st' : PState) (line key val : Str) (b : Branch) (h : runBranch jl st line key val b = .ok st') :
    FrameP (key = kName) (b = .version) st st' := by
  cases b
  case bad => cases h
  case compressions | hostKeys | optional | kex | ciphers | macs => cases h; exact ⟨id, id, id, fun _ => rfl, fun _ => rfl⟩
  case version => cases h; exact ⟨id, id, id, fun _ => rfl, fun hv => absurd rfl hv⟩
  -- the handlers `d…`: an error, or `st` with some fields replaced
  all_goals simp only [runBranch, dQuoted, dLegacyHostkey, dLegacyCakey, dLegacyDh, dHostKeySizes, dDhSizes, dFlags] at h
  all_goals repeat' split at h
  all_goals cases h
  all_goals constructor
  all_goals simp [*]
theorem step_frame (st st' : PState) (l : Str) (h : step jl st l = .ok st') :
    FrameP (IsDirective kName l) (IsDirective kVersion l) st st' := by
  unfold step at h
  simp only at h
  split at h
  · cases h; exact .refl _ _ _
  · split at h
    · cases h
    · next k v hkv =>
      rw [dispatch_eq] at h
      exact (runBranch_frame jl st st' _ _ _ _ h).mono (fun e => ⟨k, v, hkv, e⟩) (fun e => ⟨k, v, hkv, branchOf_version e⟩)

theorem parseLines_frame (st st' : PState) (lines : List Str) (h : parseLines jl st lines = .ok st') :
    FrameP (∃ l ∈ lines, IsDirective kName l) (∃ l ∈ lines, IsDirective kVersion l) st st' := by
  fun_induction parseLines jl st lines with
  | case1 st => cases h; exact .refl _ _ _
  | case2 st l ls st1 hs ih =>
    have up : ∀ key, (IsDirective key l ∨ ∃ x ∈ ls, IsDirective key x) → ∃ x ∈ l :: ls, IsDirective key x := fun key hd =>
      hd.elim (fun hl => ⟨l, List.mem_cons_self, hl⟩) fun ⟨x, hx, hl⟩ => ⟨x, List.mem_cons_of_mem _ hx, hl⟩
    exact ((step_frame jl st st1 l hs).trans (ih h)).mono (up _) (up _)
  | case3 st l ls e hs => cases h

/-- **the boolean directives are sticky**: once `allow_larger_keys` / `allow_algorithm_subset_and_reordering` is true or the policy is a client
    policy, no later line (in particular not `… = false`) resets it — this is what the code does -/
theorem flags_sticky (st st' : PState) (lines : List Str) (h : parseLines jl st lines = .ok st') :
    (st.pol.allowLarger = true → st'.pol.allowLarger = true) ∧ (st.pol.allowSubset = true → st'.pol.allowSubset = true) ∧
    (st.serverPolicy = false → st'.serverPolicy = false) := by
  have f := parseLines_frame jl st st' lines h
  exact ⟨f.larger, f.subset, f.client⟩

theorem parseWith_ok {text : Str} {r : Rec} (h : parseWith jl text = .ok r) :
    ∃ st, parseLines jl {} (Text.splitOn '\n' text) = .ok st ∧ st.name = some r.name ∧ st.version = some r.version := by
  unfold parseWith at h
  split at h
  case h_2 => cases h  -- the loop failed
  case h_1 st hp =>
    refine ⟨st, hp, ?_⟩
    revert h
    fun_cases finish st with
    | case1 hn => nofun  -- no name
    | case2 n hn hv => nofun  -- no version
    | case3 n hn v hv => intro h; cases h; exact ⟨hn, hv⟩

/-- **a text without a `name` directive is never accepted** (it ends in `The policy does not have a name field` unless a line fails first) -/
theorem parse_missing_name (text : Str) (h : ∀ l ∈ Text.splitOn '\n' text, ¬ IsDirective kName l) : ∀ r, parseWith jl text ≠ .ok r := by
  intro r hr
  obtain ⟨st, hp, hn, _⟩ := parseWith_ok jl hr
  have := (parseLines_frame jl {} st _ hp).name fun ⟨l, hl, hd⟩ => h l hl hd
  rw [hn] at this; cases this

/-- **a text without a `version` directive is never accepted** -/
theorem parse_missing_version (text : Str) (h : ∀ l ∈ Text.splitOn '\n' text, ¬ IsDirective kVersion l) : ∀ r, parseWith jl text ≠ .ok r := by
  intro r hr
  obtain ⟨st, hp, _, hv⟩ := parseWith_ok jl hr
  have := (parseLines_frame jl {} st _ hp).version fun ⟨l, hl, hd⟩ => h l hl hd
  rw [hv] at this; cases this

/-- **a comment or blank line inserted anywhere in a text never changes what the text loads to** -/
theorem parse_insert_comment_or_blank (l1 l2 : List Str) (c : Str) (hc : Skipped c) (hne : l1 ++ l2 ≠ [])
    (h1 : ∀ l ∈ l1, '\n' ∉ l) (h2 : ∀ l ∈ l2, '\n' ∉ l) (hcn : '\n' ∉ c) :
    parseWith jl (Text.join ['\n'] (l1 ++ c :: l2)) = parseWith jl (Text.join ['\n'] (l1 ++ l2)) := by
  unfold parseWith
  rw [Text.splitOn_join '\n' (by simp), Text.splitOn_join '\n' hne, parseLines_skip_comment_or_blank jl _ l1 l2 c hc]
  · exact List.forall_mem_append.mpr ⟨h1, h2⟩
  · exact List.forall_mem_append.mpr ⟨h1, List.forall_mem_cons.mpr ⟨hcn, h2⟩⟩

instance (n : Str) : Decidable (WfName n) := by unfold WfName; infer_instance

instance {ε α} [DecidableEq ε] [DecidableEq α] : DecidableEq (Except ε α) := fun a b =>
  match a, b with
  | .ok x, .ok y => if h : x = y then isTrue (h ▸ rfl) else isFalse (fun e => by cases e; exact h rfl)
  | .error x, .error y => if h : x = y then isTrue (h ▸ rfl) else isFalse (fun e => by cases e; exact h rfl)
  | .ok _, .error _ => isFalse (fun e => by cases e)
  | .error _, .ok _ => isFalse (fun e => by cases e)

/-- an OpenSSH-like target with a GSS key exchange (`=` in the name), a certificate host key and a measured group-exchange modulus -/
def peerR : Peer :=
  { bannerStr := s "SSH-2.0-OpenSSH_9.6p1 Ubuntu-3ubuntu13.5",
    comp := [s "none", s "zlib@openssh.com"],
    key := [s "rsa-sha2-512", s "rsa-sha2-256", s "ecdsa-sha2-nistp256", s "ssh-ed25519", s "ssh-ed25519-cert-v01@openssh.com"],
    kex := [s "sntrup761x25519-sha512@openssh.com", s "curve25519-sha256", s "gss-group14-sha256-toWM5Slw5Ew8Mqkay+al2g==",
            s "diffie-hellman-group-exchange-sha256", s "kex-strict-s-v00@openssh.com"],
    enc := [s "chacha20-poly1305@openssh.com", s "aes256-gcm@openssh.com"],
    mac := [s "umac-128-etm@openssh.com", s "hmac-sha2-256-etm@openssh.com"],
    hostKeys := [(s "rsa-sha2-512", { size := 3072, caType := [], caSize := 0 }), (s "ssh-ed25519", { size := 256, caType := [], caSize := 0 }),
                 (s "ssh-ed25519-cert-v01@openssh.com", { size := 256, caType := s "ssh-rsa", caSize := 4096 })],
    dhSizes := [(s "diffie-hellman-group-exchange-sha256", 3072)] }
def srcR : Str := s "target.example"
def todayR : Str := s "2026/09/29"

/-- **the hypotheses of `parse_create` hold for a realistic peer** -/
theorem realistic_peer_wf : WfPeer peerR ∧ WfText srcR todayR peerR := by
  simp only [peerR, srcR, todayR, s]
  decode_literals
  constructor <;> constructor <;> decide +kernel

-- the theorem instantiated, and the same fact by running the model on the 2.6 kB text in the kernel
example : parse (create srcR todayR peerR false)
    = .ok { name := s "Custom Policy (based on target.example on 2026/09/29)", version := ['1'], pol := policyOf peerR, serverPolicy := true, warnings := 0 } := by
  rw [parse_create srcR todayR peerR realistic_peer_wf.1 realistic_peer_wf.2, madeName_plain srcR todayR (by decide +kernel) (by decide +kernel)]
  simp only [nameVal, srcR, todayR, s]
  decode_literals
  rfl
example : (parse (create srcR todayR peerR true)).toOption.map (fun r => (r.pol == policyOf peerR, r.serverPolicy, r.version)) = some (true, false, ['1']) := by
  simp only [peerR, srcR, todayR, s]
  decode_literals
  decide +kernel
example : (evaluate (policyOf peerR) peerR []).1 = true := (C05.made_policy_verdict peerR).1

-- a hand-written policy: comments, CRLF, white space around `=` and `,`, `=` inside a value, escapes, legacy and JSON sizes
def handText : Str :=
  s "# a policy\r\n\r\n  name   =  \"My \\\"quoted\\\" policy\"  \r\nversion = 2 = two\n" ++ s "host keys = a ,b==,  c\nhostkey_size_a = 3072\n"
  ++ s "cakey_size_rsa-sha2-512-cert-v01@openssh.com = 4096\n" ++ s "dh_modulus_sizes = {\"g\\u00e9\": 2048}\nallow_larger_keys = TRUE\n"
  ++ s "allow_larger_keys = false\nhost keys = x, y\n"
example : parse handText = .ok {
    name := s "My \"quoted\" policy", version := s "2 = two", serverPolicy := true, warnings := 2,
    pol := { hostKeys := some [s "x", s "y"], allowLarger := true, dhSizes := some [(s "gé", 2048)],
             hostkeySizes := some [(s "a", { size := 3072, caType := [], caSize := 0 }),
                                   (s "rsa-sha2-512-cert-v01@openssh.com", { size := 3072, caType := s "ssh-rsa", caSize := 4096 })] } } := by
  simp only [handText, s]
  decode_literals
  decide +kernel
example : parse (s "name = \"x\"\nversion = 1\nhost keys a, b\n") = .error (.noEq (s "host keys a, b")) := by
  simp only [s]
  decode_literals
  decide +kernel
example : parse (s "name = \"x\"\nversion = 1\nhostkeys = a\n") = .error (.badField (s "hostkeys = a")) := by
  simp only [s]
  decode_literals
  decide +kernel
example : parse (s "name = My Policy\nversion = 1\n") = .error (.unquoted (s "name") (s "My Policy")) := by
  simp only [s]
  decode_literals
  decide +kernel
example : parse (s "name = \"x\"\nbanner = \"SSH-2.0-x\nversion = 1\n") = .error (.unquoted (s "banner") (s "\"SSH-2.0-x")) := by
  simp only [s]
  decode_literals
  decide +kernel
example : parse (s "version = 1\nhost keys = a\n") = .error .noName := by
  simp only [s]
  decode_literals
  decide +kernel
example : parse (s "name = \"x\"\n# version = 1\n") = .error .noVersion := by
  simp only [s]
  decode_literals
  decide +kernel
example : parse (s "name = \"x\"\nversion = 1\nhost_key_sizes = {\"a\": {\"hostkey_size\": 1}\n") = .error .badJson := by
  simp only [s]
  decode_literals
  decide +kernel
example : parse (s "name = \"x\"\nversion = 1\nhost_key_sizes = {\"a\": 3072}\n") = .error .typeError := by
  simp only [s]
  decode_literals
  decide +kernel
example : parse (s "name = \"x\"\nversion = 1\ncakey_size_a = 1\n") = .error .unbound := by
  simp only [s]
  decode_literals
  decide +kernel
example : parse (s "name = \"x\"\nversion = 1\nhostkey_size_a = 30x72\n") = .error (.badInt (s "30x72")) := by
  simp only [s]
  decode_literals
  decide +kernel
example : (Json.loads (s "\"\\ud83d\\ude00\\u00e9\\n\"")).toOption.map (fun v => match v with | .str x => x | _ => []) = some [Char.ofNat 0x1F600, 'é', '\n'] := by
  simp only [s]
  decode_literals
  decide +kernel
example : Json.dumpStr [Char.ofNat 0x1F600, 'é', '\n', '"', '\x7f'] = s "\"\\ud83d\\ude00\\u00e9\\n\\\"\\u007f\"" := by
  simp only [s]
  decode_literals
  decide +kernel
example : dumpHostKeys peerR.hostKeys = s "{\"rsa-sha2-512\": {\"hostkey_size\": 3072}, \"ssh-ed25519\": {\"hostkey_size\": 256}, "
    ++ s "\"ssh-ed25519-cert-v01@openssh.com\": {\"hostkey_size\": 256, " ++ s "\"ca_key_type\": \"ssh-rsa\", \"ca_key_size\": 4096}}" := by
  simp only [s]
  decode_literals
  decide +kernel

-- the hypotheses are needed: a name with a comma, or an empty name-list, does not survive the text (the code joins with `, ` and splits at `,`)
example : (parse (create srcR todayR { peerR with mac := [s "a,b"] } false)).toOption.map (·.pol.macs) = some (some [s "a", s "b"]) := by
  have ⟨hw, ht⟩ := realistic_peer_wf
  rw [parse, parseWith_create Json.loads srcR todayR { peerR with mac := [s "a,b"] } false hw.hasKex hw.hkNodup hw.dhNodup
    ⟨ht.source, ht.today, ht.banner, ht.comp, ht.key, ht.kex, ht.enc, by decide +kernel⟩ (loadsOk_loads _)]
  decide +kernel
example : (parse (create srcR todayR { peerR with mac := [] } false)).toOption.map (·.pol.macs) = some (some [[]]) := by
  have ⟨hw, ht⟩ := realistic_peer_wf
  rw [parse, parseWith_create Json.loads srcR todayR { peerR with mac := [] } false hw.hasKex hw.hkNodup hw.dhNodup
    ⟨ht.source, ht.today, ht.banner, ht.comp, ht.key, ht.kex, ht.enc, by decide +kernel⟩ (loadsOk_loads _)]
  decide +kernel

end SshAudit.C05File
