/-
  Regenerated logic against the hand-written model, second unit: statement blocks and lambdas (`Gen/Logic2.lean`; scheme: `GenLogic.lean`).

  A `block` is the run of statements the table selects inside a bigger function, read as a function from its (typed) free variables to
  the locals it leaves behind.  The host-key block is followed in the shape the translator gives it (the pair of comment lists threaded
  through the `if`s).  The right sides of `read_packet*_eq_model`, `gex_early_exit_eq_model`, `gex_followup_updated_eq_model` and
  `status_step_eq_model` are closed forms written out, not calls of a model definition: the model has the same tests inline in
  `Wire.readPacket`, `Gex.loop`, `Gex.run`.
-/
import SshAudit.Gen.Logic2
import SshAudit.Gen.Tables
import SshAudit.Lemmas.Py
import SshAudit.Model.HostKey
import SshAudit.Model.Wire
import SshAudit.Model.Multi
import SshAudit.Model.Report
import SshAudit.Model.Output
import SshAudit.Model.Banner
import SshAudit.Model.Gex
import SshAudit.Model.Target
set_option linter.unusedSimpArgs false
namespace SshAudit.GenLogic
open SshAudit

/-! ### ssh_socket.py `send_packet` (C10): padding and length field -/

theorem send_packet_framing_eq_model (p : Bytes) :
    Gen.Logic.send_packet_framing p = (((Wire.padLen p.length : Nat) : Int), ((p.length + Wire.padLen p.length + 1 : Nat) : Int)) := by
  simp only [Gen.Logic.send_packet_framing, Wire.padLen]
  -- Python's `(-(n + 5)) % 8` is `(8 - (n + 5) % 8) % 8`
  grind

/-- the two numbers of `send_packet` satisfy RFC 4253 section 6 outright: at least 4 bytes of padding, fewer than 12, and 4 + 1 + payload + padding a multiple of 8 -/
theorem send_packet_framing_rfc (p : Bytes) :
    let r := Gen.Logic.send_packet_framing p
    4 ≤ r.1 ∧ r.1 < 12 ∧ (4 + r.2) % 8 = 0 ∧ r.2 = 1 + (p.length : Int) + r.1 := by
  simp only [Gen.Logic.send_packet_framing]
  grind

example : Gen.Logic.send_packet_framing [] = (11, 12) ∧ Gen.Logic.send_packet_framing [1, 2, 3] = (8, 12)
    ∧ Gen.Logic.send_packet_framing [1, 2, 3, 4, 5, 6, 7] = (4, 12) := by decide +kernel

/-! ### ssh_audit.py `output_algorithm` (C02): one step of the status fold -/

/-- the `if / elif` that updates `program_retval` for one note: failure wins, a warning never lowers a failure, anything else keeps the status -/
theorem status_step_eq_model (level : Str) (st : Int) :
    Gen.Logic.status_step level st =
      if level = "fail".toList then 3 else if level = "warn".toList ∧ st ≠ 3 then 2 else st := by
  rw [String.toList_ofList, String.toList_ofList]
  simp only [Gen.Logic.status_step, beq_iff_eq, bne_iff_ne, Bool.and_eq_true]

/-- `status_step` folded over the levels of a note list is `Report.foldStatus`, the function C02's theorems are about -/
theorem status_fold_eq_model (notes : List Report.Note) (st : Nat) :
    notes.foldl (fun (a : Int) n => Gen.Logic.status_step (Output.levelName n.level) a) (st : Int) = (Report.foldStatus st notes : Nat) := by
  unfold Report.foldStatus
  induction notes generalizing st with
  | nil => rfl
  | cons n ns ih =>
    have h : Gen.Logic.status_step (Output.levelName n.level) (st : Int) =
        ((match n.level with | .fail => 3 | .warn => if st ≠ 3 then 2 else st | .info => st : Nat) : Int) := by
      have e : ((st : Int) != 3) = (st != 3) := by
        rw [Bool.eq_iff_iff, bne_iff_ne, bne_iff_ne]
        omega
      cases n.level
      · rfl
      · show (if ((st : Int) != 3) = true then (2 : Int) else st) = ((if st ≠ 3 then 2 else st : Nat) : Int)
        rw [e]
        by_cases h3 : st = 3 <;> simp [h3]
      · rfl
    rw [List.foldl_cons, h]
    exact ih _

example : Gen.Logic.status_step "warn".toList 3 = 3 ∧ Gen.Logic.status_step "warn".toList 0 = 2 ∧ Gen.Logic.status_step "fail".toList 2 = 3
    ∧ Gen.Logic.status_step "info".toList 2 = 2 := by decide +kernel

/-! ### ssh_audit.py `main` (C08): one step of the multi-target status fold -/

/-- the ranked list the block builds is the table the translator of the data reads (`Gen.rankedReturnCodes`), and the step is `Multi.rankStep`
    whenever both statuses are in that list; otherwise `.index()` raises (`none`) -/
theorem rank_step_eq_model (w ret : Int) :
    Gen.Logic.rank_step w ret =
      match Multi.rank Gen.rankedReturnCodes w, Multi.rank Gen.rankedReturnCodes ret with
      | some _, some _ => some (Multi.rankStep Gen.rankedReturnCodes ret w)
      | _, _ => none := by
  have hl : ([(0 : Int), 2, 3, 1, -1] : List Int) = Gen.rankedReturnCodes := by decide
  simp only [Gen.Logic.rank_step, Py.indexOf, Py.indexOfNat_eq_findIdx?, hl, Multi.rankStep, Multi.rank]
  -- `.index()` raises unless both statuses are ranked; then the two positions are compared, as integers in the source
  cases List.findIdx? (fun x => decide (x = w)) Gen.rankedReturnCodes with
  | none => rfl
  | some a =>
    cases List.findIdx? (fun x => decide (x = ret)) Gen.rankedReturnCodes with
    | none => rfl
    | some b =>
      have hc : decide ((a : Int) > (b : Int)) = decide (a > b) := decide_eq_decide.2 (by omega)
      simp only [Option.map_some, Option.bind_some, Int.ofNat_eq_natCast, hc]
      by_cases h : a > b <;> simp [h]

example : Gen.Logic.rank_step 1 3 = some 1 ∧ Gen.Logic.rank_step 3 1 = some 1 ∧ Gen.Logic.rank_step (-1) 1 = some (-1)
    ∧ Gen.Logic.rank_step 2 0 = some 2 ∧ Gen.Logic.rank_step 7 0 = none := by decide +kernel

/-! ### ssh_socket.py `read_packet` (C09 / C10): the length arithmetic and the two rejection tests -/

/-- SSH-2: `payload_length` and `check_size` from the two length fields (as integers: the payload length is negative when the padding
    length exceeds the packet length, D16) -/
theorem read_packet2_lengths_eq_model (plen pad : Nat) :
    Gen.Logic.read_packet2_lengths (plen : Int) (pad : Int) = ((plen : Int) - (pad : Int) - 1, ((plen + 4 : Nat) : Int)) := by
  simp only [Gen.Logic.read_packet2_lengths]
  grind

/-- SSH-1: padding `8 - len % 8`, payload = the length field, `check_size` their sum -/
theorem read_packet1_lengths_eq_model (plen : Nat) :
    Gen.Logic.read_packet1_lengths (plen : Int) = (((Wire.padLen1 plen : Nat) : Int), (plen : Int), ((Wire.padLen1 plen + plen : Nat) : Int)) := by
  simp only [Gen.Logic.read_packet1_lengths, Wire.padLen1]
  grind

/-- the block-size test: `check_size % block_size != 0` (a `ZeroDivisionError` for a block size of 0, which the code never sets) -/
theorem read_packet_bad_block_eq_model (cs b : Nat) :
    Gen.Logic.read_packet_bad_block (cs : Int) (b : Int) = if b = 0 then none else some (decide (cs % b ≠ 0)) := by
  simp only [Gen.Logic.read_packet_bad_block, Py.mod]
  by_cases hb : b = 0
  · simp [hb]
  · have : ¬ ((b : Int) = 0) := by omega
    simp only [this, hb, if_false, Option.bind_some, Int.fmod_eq_emod_of_nonneg (cs : Int) (Int.natCast_nonneg b)]
    congr 1
    rw [← Int.natCast_emod]
    grind

/-- the length test: the payload must hold the packet type (and, in SSH-1, the CRC) -/
theorem read_packet_bad_length_eq_model (pl sshv : Int) :
    Gen.Logic.read_packet_bad_length pl sshv = decide (pl < (if sshv = 1 then 5 else 1)) := by
  simp only [Gen.Logic.read_packet_bad_length]
  grind

theorem bad_block_8 (cs : Nat) : Gen.Logic.read_packet_bad_block (cs : Int) 8 = some (decide (cs % 8 ≠ 0)) :=
  read_packet_bad_block_eq_model cs 8

/-- a packet is rejected by one of the two tests exactly when `check_size` is no multiple of 8 or the payload would be shorter
    than the packet type -/
theorem read_packet2_reject_iff_model (plen pad : Nat) :
    let l := Gen.Logic.read_packet2_lengths (plen : Int) (pad : Int)
    (Gen.Logic.read_packet_bad_block l.2 8 = some true ∨ Gen.Logic.read_packet_bad_length l.1 2 = true) ↔ ((plen + 4) % 8 ≠ 0 ∨ plen < pad + 2) := by
  simp only [read_packet2_lengths_eq_model, read_packet_bad_length_eq_model, bad_block_8]
  -- over the integers `plen - pad - 1 < 1` is `plen < pad + 2`
  simp
  omega

/-- the same rejection condition for SSH-1, where the payload also holds the CRC -/
theorem read_packet1_reject_iff_model (plen : Nat) :
    let l := Gen.Logic.read_packet1_lengths (plen : Int)
    (Gen.Logic.read_packet_bad_block l.2.2 8 = some true ∨ Gen.Logic.read_packet_bad_length l.2.1 1 = true) ↔
      ((Wire.padLen1 plen + plen) % 8 ≠ 0 ∨ plen < 5) := by
  simp only [read_packet1_lengths_eq_model, read_packet_bad_length_eq_model, bad_block_8]
  simp
  omega

/-! ### gextest.py `GEXTest.run` (C12): the early exit of the probe loop and the follow-up flag (`-1` = no modulus obtained) -/

/-- `if bits >= smallest_modulus > 0: break` is the test of `Gex.loop` -/
theorem gex_early_exit_eq_model (b : Nat) (sm : Option Nat) :
    Gen.Logic.gex_early_exit (b : Int) (encSize sm) = (match sm with | some s => decide (b ≥ s ∧ s > 0) | none => false) := by
  cases sm <;> simp only [Gen.Logic.gex_early_exit, encSize] <;> grind

/-- `openssh_test_updated` after the second pass is the `upd` of `Gex.run` -/
theorem gex_followup_updated_eq_model (r : Option Nat) :
    Gen.Logic.gex_followup_updated (encSize r) = (match r with | some n => decide (n > 0 ∧ n ≠ 2048) | none => false) := by
  cases r <;> simp only [Gen.Logic.gex_followup_updated, encSize] <;> grind

/-! ### auditconf.py (C18): the port range -/

theorem port_out_of_range_eq_model (v : Int) :
    Gen.Logic.port_out_of_range v = (match Target.checkPort v with | .error _ => true | .ok _ => false) := by
  simp only [Gen.Logic.port_out_of_range, Target.checkPort]
  grind

/-! ### utils.py `is_print_ascii` (C16): the character filter -/

theorem is_print_ascii_char_eq_model (n : Nat) : Gen.Logic.is_print_ascii_char (n : Int) = Banner.isPrintCode n := by
  simp only [Gen.Logic.is_print_ascii_char, Banner.isPrintCode]
  grind

/-! ### hostkeytest.py `perform_test` (C11): the size notes of one probed host key -/

/-- `b` stands for the generated test, whichever of its two prefix tests the code writes first -/
theorem gen_limits (cfg : HostKey.Cfg) (n : Str) (b : Bool) (hb : b = HostKey.isEcc n) :
    (if b = true then ((256 : Int), (224 : Int), cfg.smallEcc) else (3072, 2048, cfg.two2k)) =
    (((HostKey.limits cfg n).1 : Int), ((HostKey.limits cfg n).2.1 : Int), (HostKey.limits cfg n).2.2) := by
  unfold HostKey.limits
  rw [hb]
  split <;> rfl

theorem pair_append_if {α β : Type} (p : Prop) [Decidable p] (x : List α × β) (t : List α) :
    ((if p then x.1 ++ t else x.1), x.2) = if p then (x.1 ++ t, x.2) else x := by
  split <;> rfl

theorem pair_if_snd {α β : Type} (p : Prop) [Decidable p] (a : α) (x y : β) :
    (a, if p then x else y) = if p then (a, x) else (a, y) := by
  split <;> rfl

/-- the model builds what one step adds to the two comment lists and appends it; the code extends the lists in place -/
theorem thread_eq {α β : Type} (F : List α × List β) (c1 c2 : Prop) [Decidable c1] [Decidable c2] (x : α) (y : β) :
    (F.1 ++ (if c1 then ([x], []) else if c2 then ([], [y]) else (([], []) : List α × List β)).1,
     F.2 ++ (if c1 then ([x], []) else if c2 then ([], [y]) else (([], []) : List α × List β)).2) =
    if c1 then (F.1 ++ [x], F.2) else if c2 then (F.1, F.2 ++ [y]) else F := by
  split
  · simp only [List.append_nil]
  · split <;> simp only [List.append_nil]

theorem nsaText_lit : HostKey.nsaText = "CA key uses elliptic curves that are suspected as being backdoored by the U.S. National Security Agency".toList := rfl

/-- the block that rates a probed host key / CA key by size, started on the empty comment lists the loop gives it, is `HostKey.comments`
    for the warning texts of the current tables -/
theorem hostkey_comments_eq_model (cfg : HostKey.Cfg) (h2 : cfg.two2k = Gen.two2kWarning) (he : cfg.smallEcc = Gen.smallEccWarning)
    (name : Str) (cert : Bool) (size : Nat) (caType : Str) (caSize : Nat) :
    Gen.Logic.hostkey_comments name cert (size : Int) caType (caSize : Int) [] [] = HostKey.comments cfg name cert size caType caSize := by
  -- the test for an elliptic-curve type, with its two prefixes in either order
  have gl := fun n => gen_limits cfg n _ rfl
  have gl' := fun n => gen_limits cfg n _ (Bool.or_comm _ _)
  -- the model's texts become the character lists of the generated code (`String.toList_ofList`: linear); the ECDSA note stays a literal on both sides
  unfold HostKey.isEcc HostKey.pEd HostKey.pEcdsa HostKey.s at gl
  unfold HostKey.pEd HostKey.pEcdsa HostKey.s at gl'
  rw [String.toList_ofList, String.toList_ofList] at gl gl'
  unfold HostKey.comments HostKey.smallText HostKey.smallHostText HostKey.smallCaText HostKey.tDss HostKey.pEcdsa HostKey.s
  repeat rw [String.toList_ofList]
  rw [nsaText_lit]
  simp only [Gen.two2kWarning, Gen.smallEccWarning] at h2 he
  -- the limits of the two key types as arbitrary numbers, named while the goal is small: no case analysis on the types
  generalize hl : HostKey.limits cfg name = lh
  generalize hc : HostKey.limits cfg caType = lc
  obtain ⟨hG, hW, hS⟩ := lh
  obtain ⟨cG, cW, cS⟩ := lc
  simp only [Gen.Logic.hostkey_comments, ← h2, ← he, Py.fmtD_natCast, gl, gl', hl, hc]
  -- integer comparisons and Boolean tests become the model's propositions: both sides are the same nest of `if`s
  simp only [Int.ofNat_lt, Int.natCast_pos, List.nil_append, List.contains_nil, Bool.not_false, Bool.and_true, Bool.and_eq_true,
    Bool.or_eq_true, decide_eq_true_eq, beq_iff_eq, bne_iff_ne, if_true, Bool.not_eq_true', Bool.not_eq_true, pair_if_snd, thread_eq,
    pair_append_if]

end SshAudit.GenLogic
