/-
  Regenerated logic against the hand-written model.

  `SshAudit.Gen.Logic.<name>` (`Gen/Logic*.lean`) are written by `harness/translate_logic.py` from the Python functions on every check whose
  plugin declares `GEN_LOGIC`; `<name>_eq_model` says that each is the function the property proofs are about.  A change of the Python
  function changes the left-hand side: the theorem then still holds (a harmless rewrite) or stops checking.  Python `int` is `Int`; where
  the model works on `Nat` the theorem is stated for every natural argument.

  What the proofs follow and what not.  Pure expressions: unfold, normalise the Python primitives, `grind` / `omega`; a reordering of
  branches, a renaming of locals, a comparison written the other way round go through.  Loops (units 3–6): the translator's scheme — a
  `for` loop is a `List.foldl` over the tuple of locals it assigns, a `break` a done flag in front — is followed, the body is not: a
  loop lemma takes the body as a variable `F` with a hypothesis on one pass, discharged by `rfl`.  Straight-line blocks are rewritten by
  equations whose left side follows the generated text; each unit's header names its own.
-/
import SshAudit.Gen.Logic
import SshAudit.Lemmas.Py
import SshAudit.Lemmas.Text
import SshAudit.Model.HostKey
import SshAudit.Model.Report
import SshAudit.Model.PolicyAudit
import SshAudit.Model.Version
import SshAudit.Model.Wire
import SshAudit.Model.Gex
set_option linter.unusedSimpArgs false
namespace SshAudit.GenLogic
open SshAudit

/-- `KexDH.__adjust_key_size` (C11): the byte-length rule of the host-key / CA size -/
theorem adjust_key_size_eq_model (n : Nat) : Gen.Logic.adjust_key_size (n : Int) = (HostKey.adjustKeySize n : Nat) := by
  simp only [Gen.Logic.adjust_key_size, HostKey.adjustKeySize, Int.shiftRight_eq_div_pow]
  -- `(8 n >>> 3) % 2 ≠ 0` iff `n` is odd, and then `8 n − 8` is not truncated
  grind

example : Gen.Logic.adjust_key_size 129 = 1024 ∧ Gen.Logic.adjust_key_size 128 = 1024 ∧ Gen.Logic.adjust_key_size 0 = 0 := by decide +kernel

/-- `Policy._normalize_error_field` (C06 / C02): never raises, and shows a one-element list as its element, any other list joined with ", " -/
theorem normalize_error_field_eq_model (f : List Str) : Gen.Logic.normalize_error_field f = some (PolicyAudit.normField f) := by
  unfold Gen.Logic.normalize_error_field PolicyAudit.normField
  rcases f with _ | ⟨x, _ | ⟨y, r⟩⟩ <;> simp [Py.getItem_of_nonneg, Pol.s]
  -- left by `simp` for two or more elements: their number is not 1
  omega

/-! ### ssh_audit.py: the per-name tests of `post_process_findings` (C04) -/

theorem is_chacha_eq_model (n : Str) : Gen.Logic.is_chacha n = Report.isChacha n := by
  simp only [Gen.Logic.is_chacha, Report.isChacha, Report.s]
  grind

theorem is_cbc_eq_model (n : Str) : Gen.Logic.is_cbc n = Report.isCbc n := by
  simp only [Gen.Logic.is_cbc, Report.isCbc, Report.s]
  grind

theorem is_etm_eq_model (n : Str) : Gen.Logic.is_etm n = Report.isEtm n := by
  simp only [Gen.Logic.is_etm, Report.isEtm, Report.s]
  grind

example : Gen.Logic.is_cbc "aes128-cbc".toList = true ∧ Gen.Logic.is_cbc "aes128-ctr".toList = false
    ∧ Gen.Logic.is_chacha "chacha20-poly1305@openssh.com".toList = true ∧ Gen.Logic.is_etm "hmac-sha2-256".toList = false := by
  decode_literals
  decide +kernel

/-- `Software._fix_date` (C14): `YYYYMMDD` → `YYYY-MM-DD`, anything else (and `None`) → `None` -/
theorem fix_date_eq_model (d : Option Str) : Gen.Logic.fix_date d = Version.fixDate d := by
  unfold Gen.Logic.fix_date Version.fixDate
  cases d with
  | none => simp
  | some d =>
    by_cases h : d.length = 8
    · match d, h with
      | [a, b, c, e, f, g, i, j], _ =>
        simp [Py.sliceTo_of_nonneg, Py.sliceFrom_of_nonneg, Py.slice_of_nonneg, Py.sliceTo_of_neg, Py.sliceFrom_of_neg]
    · simp [h]
      -- left by `simp`: the length test over `Int`
      omega

/-- `Algorithm.get_ssh_version` (C14): product, version text and the client flag of a database descriptor -/
theorem get_ssh_version_eq_model (d : Str) : Gen.Logic.get_ssh_version d = Version.getSshVersion d := by
  unfold Gen.Logic.get_ssh_version Version.getSshVersion Version.productOfDesc
  simp only [Text.endsWith_singleton, Text.startsWith_cons, Text.startsWith_nil]
  simp [Py.sliceTo_of_neg, Py.sliceFrom_of_nonneg, List.dropLast_eq_take, Version.pDropbear, Version.pLibSSH, Version.pOpenSSH]
  -- after the final `C` is stripped: starts with `d`, with `l1` or with neither, the match of `productOfDesc`
  grind

example : Gen.Logic.get_ssh_version "d2020.79C".toList = ("Dropbear SSH".toList, "2020.79".toList, true) := by
  decode_literals
  decide +kernel

/-- `GEXTest.run` (C12), the `if / elif` chain that rates the measured modulus size: branch 0 (failure) below 2048, branch 1 (warning) below 3072, else none -/
theorem gex_size_class_eq_model (n : Nat) : Gen.Logic.gex_size_class (n : Int) = ((2 - Gex.sizeSeverity n : Nat) : Int) := by
  simp only [Gen.Logic.gex_size_class, Gex.sizeSeverity]
  grind

/-- no hand-written function of its own in the model (`Wire.createMpint` has the expression inline): the byte length `_create_mpint` gives an
    integer of `bits` bits is `bits / 8`, plus one unless the integer is zero -/
theorem mpint_length_eq_model (bits : Nat) (n : Int) :
    Gen.Logic.mpint_length (bits : Int) n = ((bits / 8 + (if n = 0 then 0 else 1) : Nat) : Int) := by
  simp only [Gen.Logic.mpint_length]
  grind

/-- … in particular for the bit length `Wire.createMpint` computes from its argument -/
theorem mpint_length_createMpint (n : Int) :
    Gen.Logic.mpint_length (Wire.bitLen n.natAbs : Int) n = ((Wire.bitLen n.natAbs / 8 + (if n = 0 then 0 else 1) : Nat) : Int) :=
  mpint_length_eq_model _ n

end SshAudit.GenLogic
