/-
  C01 / C02 / C03 for the SSH-1 audit report: for every public-key message, banner, role, mask table and state of
  the two rating databases; then, with the regenerated tables, which masks give which exit status (0 is possible: D22 with D23).
-/
import SshAudit.Model.Ssh1Report
import SshAudit.Lemmas.Report
import SshAudit.Props.C01
import SshAudit.Gen.KexDB
import SshAudit.Gen.Tables
namespace SshAudit.C01Ssh1
open SshAudit SshAudit.Report SshAudit.Ssh1Report

theorem mem_lines (db : DB) (cat : Str) (ns : List Str) (l : AlgLine) :
    l ∈ lines db cat ns ↔ ∃ n ∈ ns, ∃ ts unk, algTexts db cat n = some (ts, unk) ∧
      l = { cat := cat, name := n, shown := n, notes := ts, unknown := unk } := by
  rw [lines, mem_algLines_plain]
  constructor
  · rintro ⟨hn, hc, hs, ht⟩
    exact ⟨l.name, hn, l.notes, l.unknown, ht, AlgLine.ext hc rfl hs rfl rfl⟩
  · rintro ⟨n, hn, ts, unk, ht, rfl⟩
    exact ⟨hn, rfl, rfl, ht⟩

theorem lines_names (db : DB) (cat : Str) (ns : List Str) : (lines db cat ns).map (·.name) = ns.filter (printed cat) :=
  algLines_names [] db cat ns [] []

/-- is some note of level `lvl` attached to `n` by the database? -/
def hasLevel (lvl : Level) (db : DB) (cat n : Str) : Bool :=
  match algTexts db cat n with
  | some (ts, _) => ts.any (fun nt => decide (nt.level = lvl))
  | none => false

theorem hasLevel_iff (lvl : Level) (db : DB) (cat n : Str) :
    hasLevel lvl db cat n = true ↔ ∃ ts unk, algTexts db cat n = some (ts, unk) ∧ ∃ nt ∈ ts, nt.level = lvl := by
  unfold hasLevel
  split
  · next h => simp [h]
  · next h => simp [h]

theorem lines_exists_level (lvl : Level) (db : DB) (cat : Str) (ns : List Str) :
    (∃ l ∈ lines db cat ns, ∃ nt ∈ l.notes, nt.level = lvl) ↔ ∃ n ∈ ns, hasLevel lvl db cat n = true := by
  simp only [mem_lines, hasLevel_iff]
  constructor
  · rintro ⟨_, ⟨n, hn, ts, unk, ht, rfl⟩, h⟩
    exact ⟨n, hn, ts, unk, ht, h⟩
  · rintro ⟨n, hn, ts, unk, ht, h⟩
    exact ⟨_, ⟨n, hn, ts, unk, ht, rfl⟩, h⟩

theorem report_key (t : Tables) (db1 db2 : DB) (x : Input) : (report t db1 db2 x).key = lines db1 keyC [rsa1] := by
  simp only [Ssh1Report.report]
theorem report_enc (t : Tables) (db1 db2 : DB) (x : Input) : (report t db1 db2 x).enc = lines db1 encC (ciphers t x.pkm) := by
  simp only [Ssh1Report.report]
theorem report_aut (t : Tables) (db1 db2 : DB) (x : Input) : (report t db1 db2 x).aut = lines db1 autC (auths t x.pkm) := by
  simp only [Ssh1Report.report]
theorem report_recs (t : Tables) (db1 db2 : DB) (x : Input) :
    (report t db1 db2 x).recs = recs1 db1 (softwareOf x.banner) (ciphers t x.pkm) (suppress1 db2) := by
  simp only [Ssh1Report.report]
theorem report_unknown (t : Tables) (db1 db2 : DB) (x : Input) :
    (report t db1 db2 x).unknown =
      (lines db1 keyC [rsa1] ++ lines db1 encC (ciphers t x.pkm) ++ lines db1 autC (auths t x.pkm)).filterMap
        (fun l => if l.unknown then some (gssNormalize l.cat l.name) else none) := by
  simp only [Ssh1Report.report]

theorem key_line (t : Tables) (db1 db2 : DB) (x : Input) :
    (report t db1 db2 x).key.map (·.name) = [rsa1] := by
  rw [report_key, lines_names]
  decide +kernel

/-- the filter drops blank names: none from the real tables (`gen_tables_printed`) -/
theorem enc_names_exact (t : Tables) (db1 db2 : DB) (x : Input) :
    (report t db1 db2 x).enc.map (·.name) = (maskNames t.ciphers 0 x.pkm.cmask).filter (printed encC) :=
  lines_names db1 encC _

theorem aut_names_exact (t : Tables) (db1 db2 : DB) (x : Input) :
    (report t db1 db2 x).aut.map (·.name) = (maskNames t.auths 1 x.pkm.amask).filter (printed autC) :=
  lines_names db1 autC _

theorem enc_listed_iff_bit (t : Tables) (db1 db2 : DB) (x : Input) (n : Str) :
    n ∈ (report t db1 db2 x).enc.map (·.name) ↔
      (∃ i, x.pkm.cmask.testBit i = true ∧ t.ciphers[i]? = some n) ∧ printed encC n = true := by
  rw [enc_names_exact, List.mem_filter, C01.mask_mem]
  simp

theorem aut_listed_iff_bit (t : Tables) (db1 db2 : DB) (x : Input) (n : Str) :
    n ∈ (report t db1 db2 x).aut.map (·.name) ↔
      (∃ i, 1 ≤ i ∧ x.pkm.amask.testBit i = true ∧ t.auths[i]? = some n) ∧ printed autC n = true := by
  rw [aut_names_exact, List.mem_filter, C01.mask_mem]

theorem names_table_order (t : Tables) (db1 db2 : DB) (x : Input) :
    ((report t db1 db2 x).enc.map (·.name)).Sublist t.ciphers ∧ ((report t db1 db2 x).aut.map (·.name)).Sublist t.auths := by
  rw [enc_names_exact, aut_names_exact]
  exact ⟨(List.filter_sublist).trans (C01.mask_sublist _ _ _), (List.filter_sublist).trans (C01.mask_sublist _ _ _)⟩

theorem no_size_suffix (t : Tables) (db1 db2 : DB) (x : Input) :
    (∀ l ∈ (report t db1 db2 x).key, l.shown = l.name ∧ l.cat = keyC) ∧
    (∀ l ∈ (report t db1 db2 x).enc, l.shown = l.name ∧ l.cat = encC) ∧
    (∀ l ∈ (report t db1 db2 x).aut, l.shown = l.name ∧ l.cat = autC) := by
  rw [report_key, report_enc, report_aut]
  exact ⟨fun _ h => ⟨shown_of_mem_plain h, cat_of_mem_plain h⟩, fun _ h => ⟨shown_of_mem_plain h, cat_of_mem_plain h⟩,
    fun _ h => ⟨shown_of_mem_plain h, cat_of_mem_plain h⟩⟩

theorem notes_function_of_name (t : Tables) (db1 db2 : DB) (x : Input) :
    (∀ l ∈ (report t db1 db2 x).key, algTexts db1 keyC l.name = some (l.notes, l.unknown)) ∧
    (∀ l ∈ (report t db1 db2 x).enc, algTexts db1 encC l.name = some (l.notes, l.unknown)) ∧
    (∀ l ∈ (report t db1 db2 x).aut, algTexts db1 autC l.name = some (l.notes, l.unknown)) := by
  rw [report_key, report_enc, report_aut]
  exact ⟨fun _ h => texts_of_mem_plain h, fun _ h => texts_of_mem_plain h, fun _ h => texts_of_mem_plain h⟩

theorem notes_same_in_every_audit (t t' : Tables) (db1 db2 db2' : DB) (x x' : Input) :
    (∀ l ∈ (report t db1 db2 x).key, ∀ l' ∈ (report t' db1 db2' x').key, l.name = l'.name → l.notes = l'.notes ∧ l.unknown = l'.unknown) ∧
    (∀ l ∈ (report t db1 db2 x).enc, ∀ l' ∈ (report t' db1 db2' x').enc, l.name = l'.name → l.notes = l'.notes ∧ l.unknown = l'.unknown) ∧
    (∀ l ∈ (report t db1 db2 x).aut, ∀ l' ∈ (report t' db1 db2' x').aut, l.name = l'.name → l.notes = l'.notes ∧ l.unknown = l'.unknown) := by
  obtain ⟨a1, a2, a3⟩ := notes_function_of_name t db1 db2 x
  obtain ⟨b1, b2, b3⟩ := notes_function_of_name t' db1 db2' x'
  exact ⟨fun l hl l' hl' => algTexts_line_unique (a1 l hl) (b1 l' hl'), fun l hl l' hl' => algTexts_line_unique (a2 l hl) (b2 l' hl'),
    fun l hl l' hl' => algTexts_line_unique (a3 l hl) (b3 l' hl')⟩

/-- the two public-key messages may differ in cookie, key sizes, exponents, moduli and flags -/
theorem report_ignores_key_material (t : Tables) (db1 db2 : DB) (x x' : Input)
    (hc : x.pkm.cmask = x'.pkm.cmask) (ha : x.pkm.amask = x'.pkm.amask) (hb : x.banner = x'.banner)
    (hr : x.clientHost.isSome = x'.clientHost.isSome) (hn : x.rateNotes = x'.rateNotes) :
    report t db1 db2 x = report t db1 db2 x' := by
  simp only [Ssh1Report.report, ciphers, auths, hc, ha, hb, hr, hn]

/-- the value `output()` returns is the fold of `output_algorithm`'s rule over every tagged note shown, in order -/
theorem status_is_fold (t : Tables) (db1 db2 : DB) (x : Input) :
    (report t db1 db2 x).status = foldStatus 0 (shownNotes (report t db1 db2 x)) := by
  simp only [Ssh1Report.report, shownNotes, Report.statusOfLines_eq, List.flatMap_append, Report.foldStatus_append]

theorem status_iff (t : Tables) (db1 db2 : DB) (x : Input) :
    let r := report t db1 db2 x
    (r.status = 3 ↔ ∃ l ∈ r.key ++ r.enc ++ r.aut, ∃ n ∈ l.notes, n.level = .fail) ∧
    (r.status = 2 ↔ (∀ l ∈ r.key ++ r.enc ++ r.aut, ∀ n ∈ l.notes, n.level ≠ .fail) ∧ ∃ l ∈ r.key ++ r.enc ++ r.aut, ∃ n ∈ l.notes, n.level = .warn) ∧
    (r.status = 0 ↔ ∀ l ∈ r.key ++ r.enc ++ r.aut, ∀ n ∈ l.notes, n.level = .info) := by
  intro r
  have h := Report.foldStatus_iff (shownNotes r)
  rw [← status_is_fold] at h
  simpa only [shownNotes, Text.exists_mem_flatMap, List.forall_mem_flatMap] using h

theorem status_option_free (cfg cfg' : Output.Cfg) (r : Report1) : exitStatus cfg r = exitStatus cfg' r := rfl

theorem exists_level_iff_names (lvl : Level) (t : Tables) (db1 db2 : DB) (x : Input) :
    (∃ l ∈ (report t db1 db2 x).key ++ (report t db1 db2 x).enc ++ (report t db1 db2 x).aut, ∃ n ∈ l.notes, n.level = lvl) ↔
      hasLevel lvl db1 keyC rsa1 = true ∨ (∃ n ∈ ciphers t x.pkm, hasLevel lvl db1 encC n = true) ∨
      (∃ n ∈ auths t x.pkm, hasLevel lvl db1 autC n = true) := by
  simp only [report_key, report_enc, report_aut, List.mem_append, or_and_right, exists_or, lines_exists_level, or_assoc,
    List.mem_singleton, exists_eq_left]

theorem status_three_iff_names (t : Tables) (db1 db2 : DB) (x : Input) :
    (report t db1 db2 x).status = 3 ↔
      hasLevel .fail db1 keyC rsa1 = true ∨ (∃ n ∈ ciphers t x.pkm, hasLevel .fail db1 encC n = true) ∨
      (∃ n ∈ auths t x.pkm, hasLevel .fail db1 autC n = true) := by
  obtain ⟨h3, _, _⟩ := status_iff t db1 db2 x
  rw [h3]
  exact exists_level_iff_names .fail t db1 db2 x

/-- the JSON document of an SSH-1 audit: bare name lists straight from the masks (this view has no per-algorithm notes) and one fingerprint -/
theorem json_lists (t : Tables) (h : Hashes) (db1 db2 : DB) (x : Input) :
    let d := doc t h db1 db2 x
    d.key = [rsa1] ∧ d.enc = some (maskNames t.ciphers 0 x.pkm.cmask) ∧ d.aut = some (maskNames t.auths 1 x.pkm.amask) ∧
    d.fpType = rsa1 ∧ d.fp = some (h.sha256 (fpData x.pkm)) ∧
    (d.clientIp.isSome = !d.target.isSome) := by
  refine ⟨rfl, rfl, rfl, rfl, rfl, ?_⟩
  show x.clientHost.isSome = !(if x.clientHost.isSome then none else some x.hostPort).isSome
  cases x.clientHost <;> rfl

theorem filter_printed_mask {T : List Str} {c : Str} (h : ∀ n ∈ T, printed c n = true) (start m : Nat) :
    (maskNames T start m).filter (printed c) = maskNames T start m :=
  List.filter_eq_self.mpr fun n hn => h n ((C01.mask_sublist _ _ _).subset hn)

/-- text and JSON list the same names; `hc`, `ha` hold of the real tables (`gen_tables_printed`) -/
theorem json_names_eq_text (t : Tables) (h : Hashes) (db1 db2 : DB) (x : Input)
    (hc : ∀ n ∈ t.ciphers, printed encC n = true) (ha : ∀ n ∈ t.auths, printed autC n = true) :
    (doc t h db1 db2 x).key = (report t db1 db2 x).key.map (·.name) ∧
    (doc t h db1 db2 x).enc = some ((report t db1 db2 x).enc.map (·.name)) ∧
    (doc t h db1 db2 x).aut = some ((report t db1 db2 x).aut.map (·.name)) := by
  rw [key_line, enc_names_exact, aut_names_exact, filter_printed_mask hc, filter_printed_mask ha]
  exact ⟨rfl, rfl, rfl⟩

theorem json_recs_eq_text (t : Tables) (h : Hashes) (db1 db2 : DB) (x : Input) :
    (doc t h db1 db2 x).recs = (report t db1 db2 x).recs ∧ (doc t h db1 db2 x).notes = (report t db1 db2 x).notes := ⟨rfl, rfl⟩

theorem mem_recs (t : Tables) (db1 db2 : DB) (x : Input) (r : Rec) (hr : r ∈ (report t db1 db2 x).recs) :
    ∃ adv, ((r.cat = keyC ∧ adv = [rsa1]) ∨ (r.cat = encC ∧ adv = ciphers t x.pkm)) ∧ (r.action ≠ .add → r.name ∈ adv ∧ r.points > 0) := by
  rw [report_recs, recs1] at hr
  generalize softwareOf x.banner = sw at hr
  cases sw with
  | none => cases hr
  | some sw =>
    obtain ⟨⟨c, adv⟩, hc, e, _, hre, _⟩ := mem_recsFor.mp hr
    simp only [List.mem_cons, Prod.mk.injEq, List.not_mem_nil, or_false] at hc
    obtain ⟨_, ⟨_, _, _, _, _, rfl⟩ | ⟨hadv, hf, rfl⟩⟩ := recOf_some hre
    · exact ⟨adv, hc, fun h => absurd rfl h⟩
    · exact ⟨adv, hc, fun _ => ⟨hadv, hf⟩⟩

theorem recs_key_enc_only (t : Tables) (db1 db2 : DB) (x : Input) :
    ∀ r ∈ (report t db1 db2 x).recs, r.cat = keyC ∨ r.cat = encC := by
  intro r hr
  obtain ⟨_, hc, _⟩ := mem_recs t db1 db2 x r hr
  exact hc.imp And.left And.left

theorem recs_none_without_software (t : Tables) (db1 db2 : DB) (x : Input) (h : softwareOf x.banner = none) :
    (report t db1 db2 x).recs = [] := by
  rw [report_recs, h]; rfl

/-- a removal or a change is recommended only for a name the peer advertised; `points > 0`: the database gives it a failure or a warning -/
theorem recs_removal_only_advertised (t : Tables) (db1 db2 : DB) (x : Input) :
    ∀ r ∈ (report t db1 db2 x).recs, r.action ≠ .add →
      r.points > 0 ∧ ((r.cat = keyC ∧ r.name = rsa1) ∨ (r.cat = encC ∧ r.name ∈ ciphers t x.pkm)) := by
  intro r hr hne
  obtain ⟨adv, hc, h⟩ := mem_recs t db1 db2 x r hr
  obtain ⟨hadv, hp⟩ := h hne
  refine ⟨hp, ?_⟩
  rcases hc with ⟨hc, rfl⟩ | ⟨hc, rfl⟩
  · exact Or.inl ⟨hc, List.mem_singleton.mp hadv⟩
  · exact Or.inr ⟨hc, hadv⟩

/-- the SSH-1 branch of `post_process_findings` is the SSH-2 function on a peer that offers nothing -/
theorem postprocess_agrees (db2 : DB) (client : Bool) (bsw : Option Str) (rate : Str) :
    (postProcess db2 noPeer client bsw rate).db = db2 ∧
    (postProcess db2 noPeer client bsw rate).suppress = suppress1 db2 ∧
    (postProcess db2 noPeer client bsw rate).notes = notes1 rate ∧
    (postProcess db2 noPeer client bsw rate).vulnerable = [] := by
  -- nothing Terrapin-relevant, and nothing offered to set against the database keys of the three "not enabled" families
  have hs : (postProcess db2 noPeer client bsw rate).suppress =
      [] ++ (DBm.keys db2 encC).filter (fun c => isChacha c && !([] : List Str).contains c) ++
        (DBm.keys db2 encC).filter (fun c => isCbc c && !([] : List Str).contains c) ++
        (DBm.keys db2 macC).filter (fun m => isEtm m && !([] : List Str).contains m) := by cases client <;> rfl
  refine ⟨by cases client <;> rfl, ?_, by cases client <;> rfl, by cases client <;> rfl⟩
  simp only [hs, List.contains_nil, Bool.not_false, Bool.and_true, List.nil_append, suppress1]

/-- the recommendation pass is the one of the SSH-2 report, run on other (category, list) pairs -/
theorem recs_shared (db : DB) (sw : Option Version.Software) (peer : Peer) (sup : List Str) :
    recommendations db sw peer sup = recsFor db sw [(kexC, peer.kex), (keyC, peer.key), (encC, peer.encS), (macC, peer.macS)] sup :=
  Report.recs_shared db sw peer sup

/-- on the SSH-1 path (`sshv == 1`) the general section shows the banner as a failure and adds `(gen) protocol SSH1 enabled`,
    whatever protocol the banner itself names -/
theorem general_flags_ssh1 (h : Hashes) (x : Input) (r : Report1) (b : Banner.Banner) (hb : x.banner = some b) :
    ({ meth := .fail, text := s "(gen) banner: " ++ Banner.render b } : Output.Item) ∈ Output.generalItems (outInput h x r false) ∧
    ({ meth := .fail, text := s "(gen) protocol SSH1 enabled" } : Output.Item) ∈ Output.generalItems (outInput h x r false) := by
  simp [Output.generalItems, outInput, hb]

/-- the `(sec) SSH v1 enabled` line is printed iff the banner names protocol major 1 (1.5, 1.99) -/
theorem security_iff_protocol1 (cfg : Output.Cfg) (h : Hashes) (x : Input) (r : Report1) :
    Output.securityItems cfg (outInput h x r true) ≠ [] ↔ ∃ b, x.banner = some b ∧ b.protocol.1 = 1 := by
  cases hb : x.banner with
  | none => simp [Output.securityItems, outInput, hb]
  | some b =>
    by_cases hp : b.protocol.1 = 1 <;> simp [Output.securityItems, outInput, hb, hp]

theorem fingerprint_items (cfg : Output.Cfg) (h : Hashes) (x : Input) (r : Report1) :
    (outInput h x r false).fps.flatMap (Output.fpItems cfg) =
      [{ meth := .good, text := s "(fin) " ++ rsa1 ++ s ": " ++ h.sha256 (fpData x.pkm) }] ++
      (if cfg.verbose then
        [{ meth := .warn, text := s "(fin) " ++ rsa1 ++ s ": " ++ h.md5 (fpData x.pkm) ++
            s " -- [info] do not rely on MD5 fingerprints for server identification; it is insecure for this use case" }]
       else []) := by
  have hw : Output.weakFpType rsa1 = false := by decide +kernel
  simp [outInput, Output.fpItems, hw]

def genTables : Tables := { ciphers := Gen.ssh1Ciphers, auths := Gen.ssh1Auths }

def failCiphers : List Str := [s "none", s "des", s "tss", s "rc4"]
def failAuths : List Str := [s "rhosts", s "kerberos"]
def cleanCiphers : List Str := [s "idea", s "3des", s "blowfish"]
def cleanAuths : List Str := [s "rsa", s "password", s "rhosts_rsa", s "tis"]

/-- what the SSH-1 database says of a name; `F`: the names with a failure note -/
structure RatedAs (F : List Str) (cat n : Str) : Prop where
  known : (algTexts Gen.ssh1db cat n).map (·.2) = some false
  fail : hasLevel .fail Gen.ssh1db cat n = F.contains n
  warn : hasLevel .warn Gen.ssh1db cat n = false
instance (F : List Str) (cat n : Str) : Decidable (RatedAs F cat n) :=
  decidable_of_iff (_ ∧ _ ∧ _) ⟨fun ⟨a, b, c⟩ => ⟨a, b, c⟩, fun h => ⟨h.known, h.fail, h.warn⟩⟩

/-- the one sweep over everything an SSH-1 peer can advertise -/
theorem gen_ratings :
    (∀ n ∈ Gen.ssh1Ciphers, RatedAs failCiphers encC n) ∧ (∀ n ∈ Gen.ssh1Auths.drop 1, RatedAs failAuths autC n) ∧ RatedAs [] keyC rsa1 := by
  decide +kernel

theorem gen_tables_printed : (∀ n ∈ Gen.ssh1Ciphers, printed encC n = true) ∧ (∀ n ∈ Gen.ssh1Auths, printed autC n = true) := by
  decide +kernel

theorem gen_names_exact (db1 db2 : DB) (x : Input) :
    (report genTables db1 db2 x).enc.map (·.name) = maskNames Gen.ssh1Ciphers 0 x.pkm.cmask ∧
    (report genTables db1 db2 x).aut.map (·.name) = maskNames Gen.ssh1Auths 1 x.pkm.amask := by
  rw [enc_names_exact, aut_names_exact]
  exact ⟨filter_printed_mask gen_tables_printed.1 _ _, filter_printed_mask gen_tables_printed.2 _ _⟩

theorem gen_all_known (db2 : DB) (x : Input) : (report genTables Gen.ssh1db db2 x).unknown = [] := by
  rw [report_unknown, List.filterMap_eq_nil_iff]
  intro l hl
  obtain ⟨r1, r2, r3⟩ := gen_ratings
  have key : ∀ {c}, algTexts Gen.ssh1db c l.name = some (l.notes, l.unknown) → (algTexts Gen.ssh1db c l.name).map (·.2) = some false →
      l.unknown = false := fun ht hk => by rw [ht] at hk; exact Option.some.inj hk
  have hu : l.unknown = false := by
    simp only [List.mem_append, lines, mem_algLines_plain] at hl
    rcases hl with (⟨hn, _, _, ht⟩ | ⟨hn, _, _, ht⟩) | ⟨hn, _, _, ht⟩
    · exact key ht (List.mem_singleton.mp hn ▸ r3.known)
    · exact key ht (r1 _ ((C01.mask_sublist _ _ _).subset hn)).known
    · exact key ht (r2 _ ((Report.mask_sublist_drop _ 1 _).subset hn)).known
  simp [hu]

/-- what the SSH-1 database fails — and it fails neither `ssh-rsa1` nor `idea`, `3des`, `blowfish` (D22) -/
theorem gen_fail_names :
    Gen.ssh1Ciphers.filter (hasLevel .fail Gen.ssh1db encC) = failCiphers ∧
    (Gen.ssh1Auths.drop 1).filter (hasLevel .fail Gen.ssh1db autC) = failAuths ∧
    hasLevel .fail Gen.ssh1db keyC rsa1 = false := by
  obtain ⟨r1, r2, r3⟩ := gen_ratings
  refine ⟨?_, ?_, r3.fail⟩
  · rw [List.filter_congr (q := failCiphers.contains) fun n hn => (r1 n hn).fail]
    decide +kernel
  · rw [List.filter_congr (q := failAuths.contains) fun n hn => (r2 n hn).fail]
    decide +kernel

theorem gen_no_warnings :
    (∀ n ∈ Gen.ssh1Ciphers, hasLevel .warn Gen.ssh1db encC n = false) ∧
    (∀ n ∈ Gen.ssh1Auths.drop 1, hasLevel .warn Gen.ssh1db autC n = false) ∧
    hasLevel .warn Gen.ssh1db keyC rsa1 = false := by
  obtain ⟨r1, r2, r3⟩ := gen_ratings
  exact ⟨fun n hn => (r1 n hn).warn, fun n hn => (r2 n hn).warn, r3.warn⟩

theorem gen_status_three_iff (db2 : DB) (x : Input) :
    (report genTables Gen.ssh1db db2 x).status = 3 ↔
      (∃ n ∈ ciphers genTables x.pkm, n ∈ failCiphers) ∨ (∃ n ∈ auths genTables x.pkm, n ∈ failAuths) := by
  obtain ⟨r1, r2, r3⟩ := gen_ratings
  rw [status_three_iff_names, r3.fail]
  simp only [List.contains_nil, Bool.false_eq_true, false_or]
  exact or_congr
    (exists_congr fun n => and_congr_right fun hn => by rw [(r1 n ((C01.mask_sublist _ _ _).subset hn)).fail, List.contains_iff_mem])
    (exists_congr fun n => and_congr_right fun hn => by rw [(r2 n ((Report.mask_sublist_drop _ _ _).subset hn)).fail, List.contains_iff_mem])

/-- the table positions from `start` on that hold one of the names `F` -/
def positions (T F : List Str) (start : Nat) : List Nat :=
  (List.range T.length).filter (fun i => decide (start ≤ i) && T[i]?.any F.contains)

theorem exists_mask_iff (T F : List Str) (start m : Nat) :
    (∃ n ∈ maskNames T start m, n ∈ F) ↔ ∃ i ∈ positions T F start, m.testBit i = true := by
  simp only [C01.mask_mem, positions, List.mem_filter, List.mem_range, Bool.and_eq_true, decide_eq_true_eq, Option.any_eq_true,
    List.contains_iff_mem]
  constructor
  · rintro ⟨n, ⟨i, h1, h2, h3⟩, hp⟩
    exact ⟨i, ⟨(List.getElem?_eq_some_iff.mp h3).1, h1, n, h3, hp⟩, h2⟩
  · rintro ⟨i, ⟨_, h1, n, h3, hp⟩, h2⟩
    exact ⟨n, ⟨i, h1, h2, h3⟩, hp⟩

/-- cipher bits 0, 2, 4, 5 are `none`, `des`, `tss`, `rc4`; authentication bits 1, 6 are `rhosts`, `kerberos` -/
theorem gen_status_three_iff_bits (db2 : DB) (x : Input) :
    (report genTables Gen.ssh1db db2 x).status = 3 ↔
      (x.pkm.cmask.testBit 0 = true ∨ x.pkm.cmask.testBit 2 = true ∨ x.pkm.cmask.testBit 4 = true ∨ x.pkm.cmask.testBit 5 = true) ∨
      (x.pkm.amask.testBit 1 = true ∨ x.pkm.amask.testBit 6 = true) := by
  have hc : positions Gen.ssh1Ciphers failCiphers 0 = [0, 2, 4, 5] := by decide +kernel
  have ha : positions Gen.ssh1Auths failAuths 1 = [1, 6] := by decide +kernel
  rw [gen_status_three_iff]
  show (∃ n ∈ maskNames Gen.ssh1Ciphers 0 x.pkm.cmask, _) ∨ (∃ n ∈ maskNames Gen.ssh1Auths 1 x.pkm.amask, _) ↔ _
  rw [exists_mask_iff, exists_mask_iff, hc, ha]
  simp

theorem gen_status_zero_or_three (db2 : DB) (x : Input) :
    (report genTables Gen.ssh1db db2 x).status = 0 ∨ (report genTables Gen.ssh1db db2 x).status = 3 := by
  have hr := Report.foldStatus_range (shownNotes (report genTables Gen.ssh1db db2 x))
  rw [← status_is_fold] at hr
  -- status 2 needs a warning note, and no SSH-1 name has one
  refine hr.imp_right fun h => h.resolve_left fun h2 => ?_
  obtain ⟨_, hst2, _⟩ := status_iff genTables Gen.ssh1db db2 x
  obtain ⟨w1, w2, w3⟩ := gen_no_warnings
  rcases (exists_level_iff_names .warn genTables Gen.ssh1db db2 x).mp (hst2.mp h2).2 with hw | ⟨n, hn, hw⟩ | ⟨n, hn, hw⟩
  · exact Bool.false_ne_true (w3.symm.trans hw)
  · exact Bool.false_ne_true ((w1 n ((C01.mask_sublist _ _ _).subset hn)).symm.trans hw)
  · exact Bool.false_ne_true ((w2 n ((Report.mask_sublist_drop _ _ _).subset hn)).symm.trans hw)

/-- an SSH-1 server can exit with status 0: offering only these ciphers and authentication types, no shown line carries a failure or a
    warning (D22), and the fail-coloured `(gen) protocol SSH1 enabled` / `(sec) SSH v1 enabled` lines do not count (D23).  So "an SSH-1 audit
    of a peer offering any cipher is at least a warning" is false for the code as it is. -/
theorem gen_clean_ssh1_exit_zero (db2 : DB) (x : Input)
    (hc : ∀ n ∈ ciphers genTables x.pkm, n ∈ cleanCiphers) (ha : ∀ n ∈ auths genTables x.pkm, n ∈ cleanAuths) :
    (report genTables Gen.ssh1db db2 x).status = 0 := by
  refine (gen_status_zero_or_three db2 x).resolve_right fun h => ?_
  rcases (gen_status_three_iff db2 x).mp h with ⟨n, hn, hf⟩ | ⟨n, hn, hf⟩
  · exact (by decide +kernel : ∀ n ∈ failCiphers, n ∉ cleanCiphers) n hf (hc n hn)
  · exact (by decide +kernel : ∀ n ∈ failAuths, n ∉ cleanAuths) n hf (ha n hn)

def pkmOf (c a : Nat) : Wire.Pkm :=
  { cookie := [], skBits := 768, skE := 65537, skN := 12345, hkBits := 1024, hkE := 65537, hkN := 0x7654321, pflags := 2, cmask := c, amask := a }

def b15 : Banner.Banner := { protocol := (1, 5), software := some (s "OpenSSH_3.9"), comments := none, validAscii := true }

-- the hypothesis of `gen_clean_ssh1_exit_zero` is satisfiable
example : ciphers genTables (pkmOf 8 4) = [s "3des"] ∧ auths genTables (pkmOf 8 4) = [s "rsa"] ∧
    (report genTables Gen.ssh1db Gen.ssh2db { pkm := pkmOf 8 4, banner := some b15 }).status = 0 := by
  unfold s
  decode_literals
  decide +kernel
example : (report genTables Gen.ssh1db Gen.ssh2db { pkm := pkmOf 0x7f 0x7f }).enc.map (·.name) = Gen.ssh1Ciphers ∧
    (report genTables Gen.ssh1db Gen.ssh2db { pkm := pkmOf 0x7f 0x7f }).aut.map (·.name) = Gen.ssh1Auths.drop 1 ∧
    (report genTables Gen.ssh1db Gen.ssh2db { pkm := pkmOf 0x7f 0x7f }).status = 3 := by decide +kernel
example : (report genTables Gen.ssh1db Gen.ssh2db { pkm := pkmOf 8 2 }).status = 3 :=
  (gen_status_three_iff_bits _ _).mpr (.inr (.inl rfl))
example : (report genTables Gen.ssh1db Gen.ssh2db { pkm := pkmOf 0x80 0x81 }).enc = [] ∧
    (report genTables Gen.ssh1db Gen.ssh2db { pkm := pkmOf 0x80 0x81 }).aut = [] := by decide +kernel
example : (report genTables Gen.ssh1db Gen.ssh2db { pkm := pkmOf 1 0 }).enc.map (·.notes) =
    [[{ level := .fail, text := s "no encryption/integrity" }, { level := .info, text := s "available since OpenSSH 1.2.2" }]] := by
  unfold s
  decode_literals
  decide +kernel
-- the `= 2` clause of `status_iff` is not vacuous: another state of the database
example : (report genTables [(encC, [{ name := s "3des", desc := [[], [], [some (s "weak")]] }])] [] { pkm := pkmOf 8 0 }).status = 2 := by decide +kernel
-- `des` is offered too, and not to be removed: for OpenSSH it is a client-only entry
example : (report genTables Gen.ssh1db Gen.ssh2db { pkm := pkmOf 5 4, banner := some b15 }).recs =
    [{ cat := encC, action := .del, name := s "none", points := 10 }, { cat := encC, action := .add, name := s "3des", points := 0 },
     { cat := encC, action := .add, name := s "blowfish", points := 0 }] := by
  unfold s
  decode_literals
  decide +kernel
example : (report genTables Gen.ssh1db Gen.ssh2db { pkm := pkmOf 5 4 }).recs = [] := recs_none_without_software _ _ _ _ rfl
example : (doc genTables { sha256 := fun _ => s "SHA256:x", md5 := fun _ => s "MD5:y" } Gen.ssh1db Gen.ssh2db { pkm := pkmOf 9 6 }).enc = some [s "none", s "3des"] := by
  decide +kernel

end SshAudit.C01Ssh1
