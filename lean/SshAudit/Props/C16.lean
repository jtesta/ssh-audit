/-
  C16 — Identification strings are recognised, decomposed and sanitised correctly.

  Model: SshAudit.Model.Banner (`Banner.parse` / `__str__`, the ASCII filters of utils.py,
  `read_line`, the header loop of `SSH_Socket.get_banner`), tied to the Python code by
  correspondence.  The theorems quantify over all texts / byte strings / chunk lists;
  `multi_version_199`, `roundtrip_excluded_point` and `d17_repaired` are concrete witnesses.  Product and version
  extraction (`Software.parse`) is covered by the search oracle of harness/props/C16.py, not here (its model belongs to C14).
-/
import SshAudit.Lemmas.Banner
namespace SshAudit.C16
open SshAudit SshAudit.Banner

/-- every character shown is in 32..126 -/
theorem sanitise_printable (s : Str) : ∀ c ∈ toPrintAscii s, 32 ≤ c.toNat ∧ c.toNat ≤ 126 := by
  intro c hc
  have := List.all_eq_true.mp (isPrintAscii_toPrint s) c hc
  simp only [isPrintCode, Bool.and_eq_true, decide_eq_true_eq] at this
  omega

/-- each character is kept if printable and becomes exactly one `?` otherwise (nothing is
    dropped, inserted or reordered) -/
theorem sanitise_pointwise (s : Str) :
    (toPrintAscii s).length = s.length ∧
      ∀ i (h : i < s.length), (toPrintAscii s)[i]? = some (if isPrint s[i] then s[i] else '?') := by
  rw [toPrint_eq_map]
  refine ⟨by simp, ?_⟩
  intro i h
  simp [san, h]

theorem sanitise_fixed_iff (s : Str) : toPrintAscii s = s ↔ isPrintAscii s = true := by
  constructor
  · intro h; rw [← h]; exact isPrintAscii_toPrint s
  · exact toPrint_of_print

/-- `valid_ascii` is set exactly when the input line was printable already -/
theorem valid_ascii_iff (l : Str) (b : Banner.Banner) (h : parse l = some b) : b.validAscii = isPrintAscii l := by
  unfold parse at h
  split at h
  · simp at h
  · simp only [Option.some.injEq] at h
    subst h
    rfl

/-- the parts reported depend on the line only through its sanitised form -/
theorem parse_via_sanitised (l : Str) :
    parse l = (parse (toPrintAscii l)).map (fun b => { b with validAscii := isPrintAscii l }) := by
  unfold parse
  simp only [toPrint_idem]
  cases rxBanner (toPrintAscii l) with
  | none => rfl
  | some g => rfl

/-- on printable ASCII, Python's (Unicode) notion of whitespace is the blank alone: this is what
    lets the model read `\s` as `' '` -/
theorem space_printable (c : Char) (h : isPrint c = true) : isUSpace c = isBlank c := by
  simp only [isPrint, isPrintCode, Bool.and_eq_true, decide_eq_true_eq] at h
  by_cases hc : c = ' '
  · subst hc; decide
  · have hn : c.toNat ≠ 32 := fun h32 => hc (Char.toNat_inj.mp h32)
    have hb : isBlank c = false := by simpa [isBlank] using hc
    rw [hb]
    simp only [isUSpace, Bool.or_eq_false_iff, Bool.and_eq_false_iff, decide_eq_false_iff_not, beq_eq_false_iff_ne]
    omega

/-- a software token of the grammar: non-empty, no blank, not starting with `SSH-` once shown -/
structure Token (t : Str) : Prop where
  ne : t ≠ []
  noblank : ∀ x ∈ t, x ≠ ' '
  noSsh : sshDash.isPrefixOf (toPrintAscii t) = false

theorem token_shown (t : Str) (ht : Token t) :
    toPrintAscii t ≠ [] ∧ ∀ x ∈ toPrintAscii t, isBlank x = false := by
  rw [toPrint_eq_map]
  constructor
  · simpa using ht.ne
  · intro x hx
    obtain ⟨c, hc, rfl⟩ := List.mem_map.mp hx
    rw [isBlank_san]
    simpa [isBlank] using ht.noblank c hc

/-! In the statements below a protocol item is a pair `p = (d, m)` with `WfPair p`: `d` a digit,
    `m` a non-empty digit string; `protoStr p` is the text `SSH-d.m`; `chain ps rem` is
    `-SSH-d₁.m₁-SSH-d₂.m₂…` followed by `rem` (empty `ps`: just `rem`); `protocolOf` is the
    smallest pair in Python's tuple-of-strings order, converted to integers: `protocolOf_single` reads it off one item,
    `protocolOf_nat` gives `(D, M)` for the item of `D < 10` and `M` (as in `banner_accept_numeric`), `by decide` a concrete list. -/

/-- `SSH-d.m[-SSH-d.m…]-t`, then nothing or a blank and anything: the general member of the family below -/
theorem accept_tail (p : Pair) (ps : List Pair) (t c : Str) (hp : ∀ q ∈ p :: ps, WfPair q) (ht : Token t)
    (hc : ∀ a ∈ c.head?, isBlank a = true) :
    parse (protoStr p ++ chain ps ('-' :: t ++ c))
      = some { protocol := protocolOf (p :: ps), software := some (toPrintAscii t),
               comments := normComments (toPrintAscii c), validAscii := isPrintAscii t && isPrintAscii c } := by
  obtain ⟨hne, hnb⟩ := token_shown t ht
  have hs : toPrintAscii ('-' :: t ++ c) = '-' :: toPrintAscii t ++ toPrintAscii c := by
    rw [toPrint_append, toPrint_cons]
    rfl
  have hpr : isPrintAscii ('-' :: t ++ c) = (isPrintAscii t && isPrintAscii c) := by
    rw [isPrintAscii_append, isPrintAscii_cons]
    rfl
  have hblank : ∀ a ∈ (toPrintAscii c).head?, isBlank a = true := by
    cases c with
    | nil => exact fun _ h => nomatch h
    | cons a r =>
      rw [toPrint_cons]
      intro x hx
      cases hx
      rw [isBlank_san]
      exact hc a rfl
  rw [parse_chain p ps _ hp (by rw [hs]; rfl), hs, hpr, ofGroups_parseTail_token _ _ _ _ hnb hne hblank]
  intro r hr
  rw [hs] at hr
  injection hr with _ hr
  subst hr
  exact matchProto_token _ _ hblank ht.noSsh

/-- `SSH-d.m[-SSH-d.m…]` alone: no software, no comments -/
theorem accept_bare (p : Pair) (ps : List Pair) (hp : ∀ q ∈ p :: ps, WfPair q) :
    parse (protoStr p ++ chain ps [])
      = some { protocol := protocolOf (p :: ps), software := none, comments := none, validAscii := true } :=
  parse_chain p ps [] hp rfl (by intro r h; cases h)

/-- `SSH-d.m-`: the software string is empty (not absent) -/
theorem accept_dash (p : Pair) (ps : List Pair) (hp : ∀ q ∈ p :: ps, WfPair q) :
    parse (protoStr p ++ chain ps ['-'])
      = some { protocol := protocolOf (p :: ps), software := some [], comments := none, validAscii := true } :=
  parse_chain p ps ['-'] hp rfl (by intro r h; cases h; rfl)

theorem accept_software (p : Pair) (ps : List Pair) (t : Str) (hp : ∀ q ∈ p :: ps, WfPair q) (ht : Token t) :
    parse (protoStr p ++ chain ps ('-' :: t))
      = some { protocol := protocolOf (p :: ps), software := some (toPrintAscii t), comments := none,
               validAscii := isPrintAscii t } := by
  have := accept_tail p ps t [] hp ht (fun _ h => nomatch h)
  rwa [List.append_nil, show toPrintAscii [] = [] from rfl, normComments_nil, show isPrintAscii [] = true from rfl,
    Bool.and_true] at this

theorem accept_comments (p : Pair) (ps : List Pair) (t c : Str) (hp : ∀ q ∈ p :: ps, WfPair q) (ht : Token t) :
    parse (protoStr p ++ chain ps ('-' :: t ++ ' ' :: c))
      = some { protocol := protocolOf (p :: ps), software := some (toPrintAscii t),
               comments := normComments (toPrintAscii c), validAscii := isPrintAscii t && isPrintAscii c } := by
  have hsan : san ' ' = ' ' := rfl
  have hpr : isPrint ' ' = true := rfl
  rw [accept_tail p ps t (' ' :: c) hp ht (fun _ h => by cases h; rfl), toPrint_cons, isPrintAscii_cons, hsan, hpr,
    normComments_cons_blank, Bool.true_and]

theorem banner_line (d : Char) (m rem : Str) : sshDash ++ d :: '.' :: m ++ rem = protoStr (d, m) ++ chain [] rem :=
  rfl

/-- **acceptance with comments**: `SSH-d.m-t c…` is the banner; protocol, software and
    comments are the corresponding parts of the line (sanitised; comments with their blanks
    normalised), and `valid_ascii` tells whether anything had to be replaced -/
theorem banner_accept (d : Char) (m t c : Str) (hv : WfPair (d, m)) (ht : Token t) :
    parse (sshDash ++ d :: '.' :: m ++ '-' :: t ++ ' ' :: c)
      = some { protocol := (d.toNat - 48, intOfDigits m), software := some (toPrintAscii t),
               comments := normComments (toPrintAscii c), validAscii := isPrintAscii t && isPrintAscii c } := by
  rw [List.append_assoc, banner_line, accept_comments (d, m) [] t c (List.forall_mem_singleton.mpr hv) ht, protocolOf_single]

/-- **acceptance without comments**: `SSH-d.m-t` -/
theorem banner_accept_nocomment (d : Char) (m t : Str) (hv : WfPair (d, m)) (ht : Token t) :
    parse (sshDash ++ d :: '.' :: m ++ '-' :: t)
      = some { protocol := (d.toNat - 48, intOfDigits m), software := some (toPrintAscii t),
               comments := none, validAscii := isPrintAscii t } := by
  rw [banner_line, accept_software (d, m) [] t (List.forall_mem_singleton.mpr hv) ht, protocolOf_single]

/-- `SSH-d.m-` and `SSH-d.m`: accepted, with an empty resp. absent software string -/
theorem banner_accept_dash (d : Char) (m : Str) (hv : WfPair (d, m)) :
    parse (sshDash ++ d :: '.' :: m ++ ['-'])
      = some { protocol := (d.toNat - 48, intOfDigits m), software := some [], comments := none, validAscii := true } := by
  rw [banner_line, accept_dash (d, m) [] (List.forall_mem_singleton.mpr hv), protocolOf_single]

theorem banner_accept_bare (d : Char) (m : Str) (hv : WfPair (d, m)) :
    parse (sshDash ++ d :: '.' :: m)
      = some { protocol := (d.toNat - 48, intOfDigits m), software := none, comments := none, validAscii := true } := by
  rw [← List.append_nil (_ ++ _), banner_line, accept_bare (d, m) [] (List.forall_mem_singleton.mpr hv), protocolOf_single]

/-- the numeric reading: for a major version below ten and any minor version written in
    decimal, the reported protocol is that pair of numbers -/
theorem banner_accept_numeric (major minor : Nat) (t c : Str) (hmaj : major < 10) (ht : Token t) :
    parse (sshDash ++ Text.natToStr major ++ '.' :: Text.natToStr minor ++ '-' :: t ++ ' ' :: c)
      = some { protocol := (major, minor), software := some (toPrintAscii t),
               comments := normComments (toPrintAscii c), validAscii := isPrintAscii t && isPrintAscii c } := by
  have := banner_accept major.digitChar (Text.natToStr minor) t c (wfPair_nat major minor hmaj) ht
  rw [intOfDigits_natToStr, Nat.toNat_digitChar_sub_48_of_lt_ten hmaj] at this
  rw [Text.natToStr_lt_ten hmaj]
  exact this

/-- **several versions**: `SSH-d₀.m₀-SSH-d₁.m₁…-t` is accepted as a whole; the protocol
    reported is the smallest item, the software is `t` -/
theorem multi_version (p : Pair) (ps : List Pair) (t : Str) (hp : ∀ q ∈ p :: ps, WfPair q) (ht : Token t) :
    parse (protoStr p ++ chain ps ('-' :: t))
      = some { protocol := protocolOf (p :: ps), software := some (toPrintAscii t), comments := none,
               validAscii := isPrintAscii t } :=
  accept_software p ps t hp ht

/-- `SSH-1.99-SSH-2.0-t` ↦ protocol (1, 99), software `t` -/
theorem multi_version_199 (t : Str) (ht : Token t) :
    parse (['S','S','H','-','1','.','9','9','-','S','S','H','-','2','.','0','-'] ++ t)
      = some { protocol := (1, 99), software := some (toPrintAscii t), comments := none, validAscii := isPrintAscii t } := by
  have hw : ∀ q ∈ [('1', ['9','9']), ('2', ['0'])], WfPair q := by
    unfold WfPair
    decide
  exact multi_version ('1', ['9','9']) [('2', ['0'])] t hw ht

/-- when several protocol items are present, the one reported is a smallest one in Python's
    order on tuples of strings (`ltPair`): it is one of the items and none is below it -/
theorem protocol_is_min (p : Pair) (ps : List Pair) :
    minPair p ps ∈ p :: ps ∧ ∀ q ∈ p :: ps, ltPair q (minPair p ps) = false :=
  ⟨minPair_mem p ps, minPair_le p ps⟩

def Word (w : Str) : Prop := w ≠ [] ∧ ∀ x ∈ w, isBlank x = false

/-- `w₀ ␣^(k₁+1) w₁ ␣^(k₂+1) w₂ …` -/
def joinBlanks : Str → List (Nat × Str) → Str
  | w, [] => w
  | w, (k, w') :: rest => w ++ (List.replicate (k + 1) ' ' ++ joinBlanks w' rest)

/-- `w₀ ␣ w₁ ␣ w₂ …` -/
def joinOne : Str → List (Nat × Str) → Str
  | w, [] => w
  | w, (_, w') :: rest => w ++ ' ' :: joinOne w' rest

theorem joinBlanks_head (w : Str) (rest : List (Nat × Str)) (hw : Word w) :
    ∃ c y, joinBlanks w rest = c :: y ∧ isBlank c = false := by
  obtain ⟨hne, hb⟩ := hw
  cases w with
  | nil => exact absurd rfl hne
  | cons c w' =>
    -- in both cases of `joinBlanks` the text begins with `w`
    rcases rest with _ | ⟨⟨k, w2⟩, rest⟩ <;> exact ⟨c, _, rfl, hb c (by simp)⟩

theorem lastOk_joinBlanks (w : Str) (rest : List (Nat × Str)) (hw : Word w) (hr : ∀ p ∈ rest, Word p.2) :
    lastOk (joinBlanks w rest) = true := by
  fun_induction joinBlanks w rest with
  | case1 w => exact ((tight_iff w).mpr (.of_forall hw.2)).2
  | case2 w k w' rest ih =>
    have hw' := hr (k, w') (by simp)
    obtain ⟨c, y, hcy, _⟩ := joinBlanks_head w' rest hw'
    have hne : joinBlanks w' rest ≠ [] := by rw [hcy]; simp
    rw [lastOk_append _ _ (by simp [hne]), lastOk_append _ _ hne]
    exact ih hw' (fun q hq => hr q (by simp [hq]))

theorem collapse_joinBlanks (w : Str) (rest : List (Nat × Str)) (hw : Word w) (hr : ∀ p ∈ rest, Word p.2) :
    collapse (joinBlanks w rest) = joinOne w rest := by
  fun_induction joinBlanks w rest with
  | case1 w => simpa [joinOne, collapse] using collapse_append_nonblank w [] hw.2
  | case2 w k w' rest ih =>
    have hw' := hr (k, w') (by simp)
    obtain ⟨c, y, hcy, hc⟩ := joinBlanks_head w' rest hw'
    rw [joinOne, collapse_append_nonblank w _ hw.2, hcy, collapse_blanks k c y hc, ← hcy,
      ih hw' (fun q hq => hr q (by simp [hq]))]

/-- **comments**: whatever the runs of blanks before, between and after the words, the comments
    reported are the words separated by single blanks -/
theorem comments_words (w : Str) (rest : List (Nat × Str)) (k0 k1 : Nat) (hw : Word w) (hr : ∀ p ∈ rest, Word p.2) :
    normComments (List.replicate k0 ' ' ++ joinBlanks w rest ++ List.replicate k1 ' ') = some (joinOne w rest) := by
  obtain ⟨c, y, hcy, hc⟩ := joinBlanks_head w rest hw
  have htight : Text.TightBy isBlank (joinBlanks w rest) :=
    (tight_iff _).mp ⟨by rw [hcy]; simp [headOk, hc], lastOk_joinBlanks w rest hw hr⟩
  have hblank : ∀ k, ∀ x ∈ List.replicate k ' ', isBlank x = true := fun k x hx => by rw [List.eq_of_mem_replicate hx]; rfl
  have hne : (joinBlanks w rest).isEmpty = false := by rw [hcy]; rfl
  rw [normComments, strip_eq, Text.stripBy_sandwich (hblank k0) (hblank k1) htight]
  simp only [orNone, hne, Bool.false_eq_true, if_false, Option.map_some, collapse_joinBlanks w rest hw hr]

/-- shape of every parsed banner, whatever the line was: the major version is one digit; the
    software string has no blank; comments are non-empty, without blanks at the ends or double
    blanks; everything is printable; comments only exist with a non-empty software string -/
theorem parse_wf (l : Str) (b : Banner.Banner) (h : parse l = some b) :
    b.protocol.1 < 10 ∧
    (∀ s, b.software = some s → ∀ x ∈ s, isPrint x = true ∧ isBlank x = false) ∧
    (∀ c, b.comments = some c → normal c = true ∧ ∀ x ∈ c, isPrint x = true) ∧
    (b.software = none → b.comments = none) ∧ (b.software = some [] → b.comments = none) := by
  unfold parse at h
  split at h
  · cases h
  · next g hg =>
    cases h
    obtain ⟨pairs, rem, rfl, hok, hsuf, hne, hw⟩ := rxBanner_some _ g hg
    have hpr : ∀ x ∈ rem, isPrint x = true :=
      fun x hx => List.all_eq_true.mp (isPrintAscii_toPrint l) x (hsuf.subset hx)
    rcases okRem_cases rem hok with rfl | ⟨r, rfl⟩
    · rw [ofGroups_parseTail_nil]
      exact ⟨protocolOf_major pairs hne hw, nofun, nofun, fun _ => rfl, fun _ => rfl⟩
    · rw [ofGroups_parseTail_dash]
      refine ⟨protocolOf_major pairs hne hw, ?_, ?_, nofun, ?_⟩
      · intro s hs x hx
        cases hs
        exact ⟨hpr x (List.mem_cons_of_mem _ ((List.dropWhile_sublist _).subset ((List.takeWhile_sublist _).subset hx))),
          by simpa using List.all_eq_true.mp List.all_takeWhile x hx⟩
      · intro c hc
        refine ⟨normComments_normal _ c hc, fun x hx => hpr x (List.mem_cons_of_mem _ ?_)⟩
        exact (List.dropWhile_sublist _).subset ((List.dropWhile_sublist _).subset (mem_of_mem_normComments _ c hc x hx))
      · intro hs
        -- the software string is empty only if nothing but blanks follows the dash
        cases h : r.dropWhile isBlank with
        | nil => rfl
        | cons a r' => simp [h, Text.dropWhile_head_false h] at hs

/-- every character of the banner as the tool shows it (`str(banner)`) is in 32..126 -/
theorem shown_printable (l : Str) (b : Banner.Banner) (h : parse l = some b) : ∀ x ∈ render b, isPrint x = true := by
  obtain ⟨_, hsw, hcm, _, _⟩ := parse_wf l b h
  intro x hx
  simp only [render, List.mem_append, or_assoc] at hx
  rcases hx with hssh | hmaj | hdot | hmin | hsoft | hcomm
  · revert x
    decide
  · exact isDigit_isPrint x (natToStr_isDigit _ x hmaj)
  · rw [List.mem_singleton.mp hdot]
    decide
  · exact isDigit_isPrint x (natToStr_isDigit _ x hmin)
  · cases hs : b.software with
    | none => simp [hs] at hsoft
    | some s =>
      simp only [hs, List.mem_cons] at hsoft
      rcases hsoft with rfl | hx
      · decide
      · exact (hsw s hs x hx).1
  · cases hc : b.comments with
    | none => simp [hc] at hcomm
    | some c =>
      simp only [hc] at hcomm
      split at hcomm
      · simp at hcomm
      · rcases List.mem_cons.mp hcomm with rfl | hx
        · decide
        · exact (hcm c hc).2 x hx

/-- a banner value of the shape `parse` produces (`parse_wf`) whose software string does not start
    with `SSH-` is read back from its rendering -/
theorem parse_render (b : Banner.Banner) (hmaj : b.protocol.1 < 10)
    (hsw : ∀ s, b.software = some s → (∀ x ∈ s, isPrint x = true ∧ isBlank x = false) ∧ sshDash.isPrefixOf s = false)
    (hcm : ∀ c, b.comments = some c → normal c = true ∧ ∀ x ∈ c, isPrint x = true)
    (hnone : b.software = none → b.comments = none) (hempty : b.software = some [] → b.comments = none) :
    parse (render b) = some { b with validAscii := true } := by
  obtain ⟨⟨D, M⟩, sw, cm, v⟩ := b
  have hw := List.forall_mem_singleton.mpr (wfPair_nat D M hmaj)
  have hrender : ∀ rem : Str, sshDash ++ Text.natToStr D ++ ['.'] ++ Text.natToStr M ++ rem
      = protoStr (D.digitChar, Text.natToStr M) ++ chain [] rem := by
    intro rem
    rw [Text.natToStr_lt_ten hmaj]
    -- an equation about any digits `m`: checked with `natToStr M` in place, it would make the unifier unfold that
    generalize Text.natToStr M = m
    exact banner_line D.digitChar m rem
  cases sw with
  | none =>
    cases hnone rfl
    simp only [render, List.append_nil]
    rw [← List.append_nil (_ ++ Text.natToStr M), hrender, accept_bare _ [] hw, protocolOf_nat D M hmaj]
  | some s =>
    obtain ⟨hs, hssh⟩ := hsw s rfl
    have hsp : isPrintAscii s = true := List.all_eq_true.mpr (fun x hx => (hs x hx).1)
    cases s with
    | nil =>
      cases hempty rfl
      simp only [render, List.append_nil]
      rw [hrender, accept_dash _ [] hw, protocolOf_nat D M hmaj]
    | cons a s' =>
      have htok : Token (a :: s') :=
        ⟨List.cons_ne_nil a s', fun x hx hxe => by simpa [hxe, isBlank] using (hs x hx).2,
          by rw [toPrint_of_print hsp]; exact hssh⟩
      cases cm with
      | none =>
        simp only [render, List.append_nil]
        rw [hrender, accept_software _ [] _ hw htok, protocolOf_nat D M hmaj, toPrint_of_print hsp, hsp]
      | some c =>
        obtain ⟨hn, hcp⟩ := hcm c rfl
        have hcp' : isPrintAscii c = true := List.all_eq_true.mpr hcp
        have hcne : c.isEmpty = false := by simpa using ((normal_iff c).mp hn).1
        simp only [render, hcne, Bool.false_eq_true, if_false]
        rw [List.append_assoc, hrender, accept_comments _ [] _ c hw htok, protocolOf_nat D M hmaj, toPrint_of_print hsp,
          toPrint_of_print hcp', hsp, hcp', normComments_of_normal c hn]
        rfl

/-- **rendering a parsed banner and parsing it again gives the same parts**, for every line
    whatsoever whose software string does not itself start with `SSH-` (see
    `roundtrip_excluded_point` for why that class is excluded).  The re-parsed banner is
    printable, so its `valid_ascii` flag is set. -/
theorem banner_roundtrip (l : Str) (b : Banner.Banner) (h : parse l = some b)
    (hs : ∀ s, b.software = some s → sshDash.isPrefixOf s = false) :
    parse (render b) = some { b with validAscii := true } := by
  obtain ⟨hmaj, hsw, hcm, hnone, hempty⟩ := parse_wf l b h
  exact parse_render b hmaj (fun s hb => ⟨hsw s hb, hs s hb⟩) hcm hnone hempty

/-- the excluded class is real: after the lenient blank-skipping behind the dash
    the software string of `SSH-1.5- SSH-3.0-bar` is `SSH-3.0-bar`; rendered, the line reads as
    two protocol items and software `bar`.  (The protocol stays the smaller item.) -/
theorem roundtrip_excluded_point :
    parse "SSH-1.5- SSH-3.0-bar".toList
      = some { protocol := (1, 5), software := some "SSH-3.0-bar".toList, comments := none, validAscii := true } ∧
    parse (render { protocol := (1, 5), software := some "SSH-3.0-bar".toList, comments := none, validAscii := true })
      = some { protocol := (1, 5), software := some "bar".toList, comments := none, validAscii := true } := by
  decode_literals
  decide +kernel

/-- a line of nothing but (Unicode) whitespace is never a banner -/
theorem blank_not_banner (t : Str) (h : isBlankLine t = true) : parse t = none := by
  cases t with
  | nil => rfl
  | cons c t =>
    simp only [isBlankLine, List.all_cons, Bool.and_eq_true] at h
    have hS : san c ≠ 'S' := by
      unfold san
      split
      · next hp =>
        have := space_printable c hp
        rw [h.1] at this
        rw [eq_space_of_isBlank c this.symm]
        decide
      · decide
    have hm : matchProto (toPrintAscii (c :: t)) = none := by
      rw [toPrint_cons]
      apply matchProto_not_prefix
      simp [List.isPrefixOf, Ne.symm hS]
    simp [parse, rxBanner, hm]

/-- **segmentation independence** (D17).
    For *every* byte stream, every content of the buffer and every way of cutting the stream
    into non-empty `recv` results, `get_banner` reports the same banner and the same header
    lines as if the whole stream had been in the buffer when the peer stopped sending
    (`finish`: all LF-terminated lines in order, then the unterminated rest, if any, as a last
    line).  What is left unread, followed by the `recv` results never requested, is exactly
    what the whole-stream reading leaves unread. -/
theorem segmentation_independence (cs : List Bytes) (hne : ∀ c ∈ cs, c ≠ []) (h0 : List Str) (buf : Bytes) :
    (getBanner h0 buf cs).banner = (finish h0 (buf ++ cs.flatten) []).banner ∧
    (getBanner h0 buf cs).header = (finish h0 (buf ++ cs.flatten) []).header ∧
    (getBanner h0 buf cs).unread ++ (getBanner h0 buf cs).pending.flatten = (finish h0 (buf ++ cs.flatten) []).unread := by
  induction cs generalizing h0 buf with
  | nil => simp [getBanner, finish]
  | cons c cs ih =>
    have hc : c.isEmpty = false := by simpa using hne c (by simp)
    -- finishing on `buf ++ c ++ rest` is scanning the complete lines of `buf ++ c` and going on from the fragment
    rw [List.flatten_cons, ← List.append_assoc, finish_append]
    simp only [getBanner, hc]
    cases hs : scan h0 (cutLines (buf ++ c)).1 with
    | mk b rest' =>
      obtain ⟨h, rest⟩ := rest'
      cases b with
      | some b => simp [List.append_assoc]       -- banner found: both sides stop with the same rest
      | none => exact ih (fun x hx => hne x (by simp [hx])) h (cutLines (buf ++ c)).2

theorem segmentation_any_two (cs₁ cs₂ : List Bytes) (h₁ : ∀ c ∈ cs₁, c ≠ []) (h₂ : ∀ c ∈ cs₂, c ≠ [])
    (hsame : cs₁.flatten = cs₂.flatten) (h0 : List Str) :
    (getBanner h0 [] cs₁).banner = (getBanner h0 [] cs₂).banner ∧
    (getBanner h0 [] cs₁).header = (getBanner h0 [] cs₂).header := by
  obtain ⟨a1, a2, _⟩ := segmentation_independence cs₁ h₁ h0 []
  obtain ⟨b1, b2, _⟩ := segmentation_independence cs₂ h₂ h0 []
  rw [a1, a2, b1, b2, hsame]
  exact ⟨rfl, rfl⟩

theorem segmentation_whole (cs : List Bytes) (hne : ∀ c ∈ cs, c ≠ []) (hdata : cs.flatten ≠ []) (h0 : List Str) :
    (getBanner h0 [] cs).banner = (getBanner h0 [] [cs.flatten]).banner ∧
    (getBanner h0 [] cs).header = (getBanner h0 [] [cs.flatten]).header :=
  segmentation_any_two cs [cs.flatten] hne (by simpa using hdata) (by simp) h0

theorem not_blank_of_parse (t : Str) (b : Banner.Banner) (h : parse t = some b) : isBlankLine t = false := by
  cases hbl : isBlankLine t with
  | false => rfl
  | true =>
    rw [blank_not_banner t hbl] at h
    cases h

/-- **header separation, LF-terminated lines, any segmentation.**  The stream consists of
    lines `hs` that are not banners, the banner line `l`, an LF, and anything after it
    (`wire`: each line followed by LF; a CR before the LF is part of the line and stripped like
    any trailing whitespace, `lineText_crlf`).  However the stream is cut into `recv` results,
    `get_banner` returns exactly the parse of `l`, the header is exactly the non-blank earlier
    lines in order, and exactly `after` is left for the caller (unread or not yet received). -/
theorem header_separation (hs : List Bytes) (l : Bytes) (b : Banner.Banner) (after : Bytes)
    (cs : List Bytes) (hne : ∀ c ∈ cs, c ≠ []) (h0 : List Str)
    (hcs : cs.flatten = wire hs ++ (l ++ 0x0a :: after))
    (hhs : ∀ r ∈ hs, (0x0a : UInt8) ∉ r ∧ parse (lineText r) = none)
    (hl : (0x0a : UInt8) ∉ l) (hb : parse (lineText l) = some b) :
    (getBanner h0 [] cs).banner = some b ∧ (getBanner h0 [] cs).header = h0 ++ shown hs ∧
      (getBanner h0 [] cs).unread ++ (getBanner h0 [] cs).pending.flatten = after := by
  have hfin : finish (h0 ++ shown hs) (l ++ 0x0a :: after) []
      = { banner := some b, header := h0 ++ shown hs, unread := after, pending := [] } := by
    unfold finish
    rw [splitLines_line l after hl]
    simp only [scan, lineText_lf, not_blank_of_parse _ b hb, hb]
    simp [flatten_splitLines]
  obtain ⟨a1, a2, a3⟩ := segmentation_independence cs hne h0 []
  rw [List.nil_append, hcs, finish_wire h0 hs _ hhs, hfin] at a1 a2 a3
  exact ⟨a1, a2, a3⟩

/-- **the unterminated tail.**  If the banner line is the last thing the peer sends and has no
    line ending, it is still accepted — as the final line, once the peer has stopped sending
    (closed, timed out or failed) — with the same header, for every segmentation. -/
theorem header_separation_unterminated (hs : List Bytes) (l : Bytes) (b : Banner.Banner)
    (cs : List Bytes) (hne : ∀ c ∈ cs, c ≠ []) (h0 : List Str)
    (hcs : cs.flatten = wire hs ++ l)
    (hhs : ∀ r ∈ hs, (0x0a : UInt8) ∉ r ∧ parse (lineText r) = none)
    (hl : (0x0a : UInt8) ∉ l) (hb : parse (lineText l) = some b) :
    (getBanner h0 [] cs).banner = some b ∧ (getBanner h0 [] cs).header = h0 ++ shown hs ∧
      (getBanner h0 [] cs).unread = [] ∧ (getBanner h0 [] cs).pending = [] := by
  have hlne : l ≠ [] := by
    intro hl0
    subst hl0
    cases hb
  have hfin : finish (h0 ++ shown hs) l []
      = { banner := some b, header := h0 ++ shown hs, unread := [], pending := [] } := by
    unfold finish
    rw [splitLines_nolf l hlne hl]
    simp [scan, not_blank_of_parse _ b hb, hb]
  obtain ⟨a1, a2, a3⟩ := segmentation_independence cs hne h0 []
  rw [List.nil_append, hcs, finish_wire h0 hs _ hhs, hfin] at a1 a2 a3
  obtain ⟨h4, h5⟩ := List.append_eq_nil_iff.mp a3
  -- nothing is pending: what is pending is a suffix of `cs`, so each piece of it is non-empty
  exact ⟨a1, a2, h4, List.eq_nil_iff_forall_not_mem.mpr fun c hc =>
    hne c ((pending_suffix cs h0 []).subset hc) (List.flatten_eq_nil_iff.mp h5 c hc)⟩

/-- **no banner is ever reported as header text**: each header line returned is a non-blank
    line that is not a banner -/
theorem header_never_banner (h0 : List Str) (buf : Bytes) (cs : List Bytes) (hne : ∀ c ∈ cs, c ≠ []) :
    ∀ t ∈ (getBanner h0 buf cs).header, t ∈ h0 ∨ (parse t = none ∧ isBlankLine t = false) := by
  rw [(segmentation_independence cs hne h0 buf).2.1]
  unfold finish
  exact scan_header h0 _

/-- the banner returned is the parse of one of the lines of the stream (as cut at LF), never of
    a fragment of a line -/
theorem banner_is_a_line (h0 : List Str) (buf : Bytes) (cs : List Bytes) (hne : ∀ c ∈ cs, c ≠ []) (b : Banner.Banner)
    (h : (getBanner h0 buf cs).banner = some b) :
    ∃ raw ∈ splitLines (buf ++ cs.flatten), parse (lineText raw) = some b := by
  rw [(segmentation_independence cs hne h0 buf).1] at h
  unfold finish at h
  exact scan_banner h0 _ b h

/-- `SSH-2.0-Open` -/
def d17a : Bytes := [0x53, 0x53, 0x48, 0x2d, 0x32, 0x2e, 0x30, 0x2d, 0x4f, 0x70, 0x65, 0x6e]
/-- `SSH_8.0\r\n` -/
def d17b : Bytes := [0x53, 0x53, 0x48, 0x5f, 0x38, 0x2e, 0x30, 0x0d, 0x0a]

/-- the D17 witness: `SSH-2.0-OpenSSH_8.0\r\n`
    delivered in two `recv` results is reported like the line delivered in one piece -/
theorem d17_repaired :
    getBanner [] [] [d17a, d17b] = getBanner [] [] [d17a ++ d17b] ∧
    getBanner [] [] [d17a, d17b]
      = { banner := some { protocol := (2, 0), software := some "OpenSSH_8.0".toList, comments := none, validAscii := true },
          header := [], unread := [], pending := [] } := by
  decode_literals
  decide +kernel

example : parse "SSH-2.0-OpenSSH_8.9p1 Ubuntu-3ubuntu0.1".toList
    = some { protocol := (2, 0), software := some "OpenSSH_8.9p1".toList, comments := some "Ubuntu-3ubuntu0.1".toList, validAscii := true } := by
  decode_literals
  decide +kernel
example : Token "OpenSSH_8.9p1".toList := by
  decode_literals
  exact ⟨by decide, by decide, by decide +kernel⟩
example : WfPair ('1', "99".toList) := by
  decode_literals
  exact ⟨by decide, by decide, by decide⟩
example : parse "SSH-1.99-SSH-2.0-x  a   b ".toList
    = some { protocol := (1, 99), software := some ['x'], comments := some "a b".toList, validAscii := true } := by
  decode_literals
  decide +kernel
example : (parse ("SSH-2.0-dropbear_2019.78 caf" ++ "é\t!").toList).map (fun b => (render b, b.validAscii))
    = some ("SSH-2.0-dropbear_2019.78 caf??!".toList, false) := by
  rw [String.toList_append]
  decode_literals
  decide +kernel
example : normComments " Debian-9etch3   on i686  ".toList = some "Debian-9etch3 on i686".toList := by
  decode_literals
  decide +kernel
example : joinBlanks "Debian-9etch3".toList [(2, "on".toList), (0, "i686".toList)] = "Debian-9etch3   on i686".toList := by
  decode_literals
  decide +kernel
example : getBanner [] [] ["hel".toUTF8.toList, "lo\r".toUTF8.toList, "\n\r\nSSH-2.".toUTF8.toList, "0-x\r\nre".toUTF8.toList, "st".toUTF8.toList]
    = { banner := some { protocol := (2, 0), software := some ['x'], comments := none, validAscii := true },
        header := ["hello".toList], unread := "re".toUTF8.toList, pending := ["st".toUTF8.toList] } := by
  decode_literals
  decide +kernel

end SshAudit.C16
