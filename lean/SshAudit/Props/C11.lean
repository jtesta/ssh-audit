/-
  C11 — Host-key sizes, CA details and fingerprints are measured and rated correctly.

  Model: SshAudit.Model.HostKey (kexdh.py `recv_reply` / `__parse_ca_key` / `__adjust_key_size`, hostkeytest.py `perform_test` / `run`,
  ssh2_kex.py `set_host_key`, the fingerprint parts of ssh_audit.py and fingerprint.py), tied to /repo by correspondence
  (harness/props/C11.py); `__adjust_key_size` and the size-rating block of `perform_test` also by the regenerated definitions
  (Props/GenLogic*).  The encoders `Spec.*` are written from the RFCs / PROTOCOL.certkeys and are not used by the model.

  The size theorems are about well-formed keys (positive RSA numbers, 32-byte Ed25519 keys, the three NIST curves) and certificates
  of type 2 with a non-empty nonce whose fields fit the 32-bit length fields of the wire format; the fan-out and fingerprint
  theorems about every host-key list and every server state machine.
-/
import SshAudit.Lemmas.HostKey
import SshAudit.Lemmas.DB
import SshAudit.Gen.Tables
import SshAudit.Gen.KexDB
namespace SshAudit.C11
open SshAudit SshAudit.Wire SshAudit.HostKey

/-- the tables of /repo (regenerated on every check) as the model's configuration -/
def cfg : Cfg :=
  { types := Gen.hostKeyTypes, rsaFamily := Gen.rsaFamily, two2k := Gen.two2kWarning, smallEcc := Gen.smallEccWarning,
    kexGroups := Gen.kexToDhgroupKeys }

/-- what the tool records when a probe connection is answered with this KEXDH_REPLY payload -/
def measured (payload : Bytes) : Option HKRec :=
  match probeResult (.reply payload) with
  | .got r => some r
  | _ => none

theorem measured_of_parse (blob f sig : Bytes) (p : Parsed) (hb : blob.length < 2 ^ 32) (hf : f.length < 2 ^ 32) (hs : sig.length < 2 ^ 32)
    (hp : parseHostKey blob = .ok p) :
    measured (Spec.kexReply blob f sig) =
      some { raw := blob, info := { size := p.size, caType := p.caType, caSize := p.caSize } } := by
  unfold measured
  simp only [probeResult]
  rw [recvReply_kexReply blob f sig hb hf hs, hp]
  rfl

theorem bitLen_mono (a b : Nat) (h : a ≤ b) : bitLen a ≤ bitLen b := Wire.bitLen_mono a b h

/-- RSA: the recorded blob is the presented blob and the reported size is the bit length of the modulus -/
theorem rsa_size_general (e n : Nat) (f sig : Bytes) (he : 0 < e) (hn : 0 < n)
    (hel : bitLen e / 8 + 1 < 2 ^ 32) (hnl : bitLen n / 8 + 1 < 2 ^ 32) (hb : (Spec.rsaBlob e n).length < 2 ^ 32)
    (hf : f.length < 2 ^ 32) (hs : sig.length < 2 ^ 32) :
    measured (Spec.kexReply (Spec.rsaBlob e n) f sig) =
      some { raw := Spec.rsaBlob e n, info := { size := bitLen n, caType := [], caSize := 0 } } := by
  rw [measured_of_parse _ f sig _ hb hf hs (parse_rsa e n ⟨he, hn, hel, hnl⟩)]
  simp only [Parsed.size_of_nBits_pos, bitLen_pos_of_pos n hn, Parsed.caSize, gt_iff_lt, Nat.lt_irrefl, if_false]
  rfl

theorem ed25519_size (pk f sig : Bytes) (hpk : pk.length = 32) (hf : f.length < 2 ^ 32) (hs : sig.length < 2 ^ 32) :
    measured (Spec.kexReply (Spec.ed25519Blob pk) f sig) =
      some { raw := Spec.ed25519Blob pk, info := { size := 256, caType := [], caSize := 0 } } := by
  have hne : pk ≠ [] := List.ne_nil_of_length_eq_add_one hpk
  have hb : (Spec.ed25519Blob pk).length < 2 ^ 32 := by simp [Spec.ed25519Blob, Spec.sstr, u32_length, Spec.ascii, hpk, s]
  rw [measured_of_parse _ f sig _ hb hf hs (parse_ed25519 pk hne (by omega))]
  rfl

theorem ed448_size (pk f sig : Bytes) (hpk : pk.length = 57) (hf : f.length < 2 ^ 32) (hs : sig.length < 2 ^ 32) :
    measured (Spec.kexReply (Spec.ed448Blob pk) f sig) =
      some { raw := Spec.ed448Blob pk, info := { size := 448, caType := [], caSize := 0 } } := by
  have hne : pk ≠ [] := List.ne_nil_of_length_eq_add_one hpk
  have hb : (Spec.ed448Blob pk).length < 2 ^ 32 := by simp [Spec.ed448Blob, Spec.sstr, u32_length, Spec.ascii, hpk, s]
  rw [measured_of_parse _ f sig _ hb hf hs (parse_ed448 pk hne (by omega))]
  rfl

/-- the certified public key of a host certificate -/
inductive HostPub where
  | rsa (e n : Nat)
  | ed25519 (pk : Bytes)

inductive CaKey where
  | rsa (e n : Nat)
  | ed25519 (pk : Bytes)
  | ecdsa (curve : Str) (x y : Bytes)

def HostPub.cert (h : HostPub) (certType : Nat) (f : Spec.CertFields) (ca : Bytes) : Bytes :=
  match h with
  | .rsa e n => Spec.rsaCert e n certType f ca
  | .ed25519 pk => Spec.edCert pk certType f ca

def HostPub.ok : HostPub → Prop
  | .rsa e n => 0 < e ∧ 0 < n ∧ bitLen e / 8 + 1 < 2 ^ 32 ∧ bitLen n / 8 + 1 < 2 ^ 32
  | .ed25519 pk => pk.length = 32

/-- the size the certificate line must show for the certified key -/
def HostPub.bits : HostPub → Nat
  | .rsa _ n => bitLen n
  | .ed25519 _ => 256

def CaKey.blob : CaKey → Bytes
  | .rsa e n => Spec.rsaBlob e n
  | .ed25519 pk => Spec.ed25519Blob pk
  | .ecdsa c x y => Spec.ecdsaBlob c x y

def CaKey.ok : CaKey → Prop
  | .rsa e n => 0 < e ∧ 0 < n ∧ bitLen e / 8 + 1 < 2 ^ 32 ∧ bitLen n / 8 + 1 < 2 ^ 32
  | .ed25519 _ => True
  | .ecdsa c x y => c ∈ curves ∧ 1 + (x.length + y.length) < 2 ^ 32

def CaKey.type : CaKey → Str
  | .rsa _ _ => tRsa
  | .ed25519 _ => tEd25519
  | .ecdsa c _ _ => s "ecdsa-sha2-" ++ c

/-- ECDSA: eight times the coordinate length, made even (`__adjust_key_size`) -/
def CaKey.bits : CaKey → Nat
  | .rsa _ n => bitLen n
  | .ed25519 _ => 256
  | .ecdsa _ x y => adjustKeySize ((x.length + y.length) / 2)

theorem caInfo_of (c : CaKey) (hc : c.ok) : ∃ l b, caInfo c.blob = .ok (c.type, l, b) ∧ (if b > 0 then b else adjustKeySize l) = c.bits := by
  cases c with
  | rsa e n =>
    exact ⟨_, _, caInfo_rsa e n hc, by simp only [bitLen_pos_of_pos n hc.2.1, if_true]; rfl⟩
  | ed25519 pk => exact ⟨32, 0, caInfo_ed25519 pk, (by decide : (if 0 > 0 then 0 else adjustKeySize 32) = 256)⟩
  | ecdsa cv x y =>
    obtain ⟨h1, h2⟩ := hc
    exact ⟨_, 0, caInfo_ecdsa cv h1 x y h2, rfl⟩

theorem parse_cert (h : HostPub) (c : CaKey) (f : Spec.CertFields) (hh : h.ok) (hc : c.ok) (hf : f.fits) (hnn : f.nonce ≠ [])
    (hcl : c.blob.length < 2 ^ 32) :
    ∃ p, parseHostKey (h.cert 2 f c.blob) = .ok p ∧ p.size = h.bits ∧ p.caType = c.type ∧ p.caSize = c.bits := by
  obtain ⟨l, b, hl, hbits⟩ := caInfo_of c hc
  cases h with
  | rsa e n =>
    refine ⟨{ keyType := Spec.rsaCertKind, nLen := bitLen n / 8 + 1, nBits := bitLen n, caType := c.type, caNLen := l, caNBits := b }, ?_, ?_⟩
    · show parseHostKey (Spec.rsaCert e n 2 f c.blob) = _
      rw [parse_rsaCert e n 2 f c.blob hh hf.1, parseCaKey_tail f c.blob hf hcl, hl]
      rfl
    · exact ⟨Parsed.size_of_nBits_pos (bitLen_pos_of_pos n hh.2.1), rfl, hbits⟩
  | ed25519 pk =>
    have hpk : pk.length = 32 := hh
    have hne : pk ≠ [] := List.ne_nil_of_length_eq_add_one hpk
    refine ⟨{ keyType := Spec.edCertKind, nLen := pk.length, nBits := 0, caType := c.type, caNLen := l, caNBits := b }, ?_, ?_⟩
    · show parseHostKey (Spec.edCert pk 2 f c.blob) = _
      rw [parse_edCert pk 2 f c.blob hne (by omega) hnn hf.1, parseCaKey_tail f c.blob hf hcl, hl]
      rfl
    · refine ⟨?_, rfl, hbits⟩
      show (if 0 > 0 then 0 else adjustKeySize pk.length) = 256
      rw [hpk]; rfl

/-- for an RSA or Ed25519 host certificate (type 2) signed by an RSA, Ed25519 or ECDSA CA the record holds the presented blob, the
    certified key's size, the CA's key type and the CA's size, whatever the other fields of the certificate are -/
theorem cert_sizes (h : HostPub) (c : CaKey) (f : Spec.CertFields) (kf sig : Bytes) (hh : h.ok) (hc : c.ok) (hf : f.fits) (hnn : f.nonce ≠ [])
    (hcl : c.blob.length < 2 ^ 32) (hb : (h.cert 2 f c.blob).length < 2 ^ 32) (hkf : kf.length < 2 ^ 32) (hs : sig.length < 2 ^ 32) :
    measured (Spec.kexReply (h.cert 2 f c.blob) kf sig) =
      some { raw := h.cert 2 f c.blob, info := { size := h.bits, caType := c.type, caSize := c.bits } } := by
  obtain ⟨p, hp, h1, h2, h3⟩ := parse_cert h c f hh hc hf hnn hcl
  rw [measured_of_parse _ kf sig p hb hkf hs hp, h1, h2, h3]

/-- ECDSA CA sizes: 256, 384 and, for the 66-byte coordinates of P-521, 528 (observation D24) -/
theorem ecdsa_ca_bits (cv : Str) (x y : Bytes) :
    (x.length = 32 → y.length = 32 → (CaKey.ecdsa cv x y).bits = 256) ∧
    (x.length = 48 → y.length = 48 → (CaKey.ecdsa cv x y).bits = 384) ∧
    (x.length = 66 → y.length = 66 → (CaKey.ecdsa cv x y).bits = 528) := by
  exact ⟨fun hx hy => by rw [CaKey.bits, hx, hy]; decide, fun hx hy => by rw [CaKey.bits, hx, hy]; decide,
    fun hx hy => by rw [CaKey.bits, hx, hy]; decide⟩

/-- a certificate of any other type (user certificates are type 1): no CA details are recorded -/
theorem cert_wrong_type (e n ct : Nat) (f : Spec.CertFields) (ca : Bytes) (he : 0 < e) (hn : 0 < n)
    (hel : bitLen e / 8 + 1 < 2 ^ 32) (hnl : bitLen n / 8 + 1 < 2 ^ 32) (hnonce : f.nonce.length < 2 ^ 32) (hct : ct ≠ 2) (hlt : ct < 2 ^ 32) :
    parseHostKey (Spec.rsaCert e n ct f ca) = .ok { keyType := Spec.rsaCertKind, nLen := bitLen n / 8 + 1, nBits := bitLen n, caType := [], caNLen := 0, caNBits := 0 } := by
  rw [parse_rsaCert e n ct f ca ⟨he, hn, hel, hnl⟩ hnonce, parseCaKey_tail_other ct hct hlt]
  rfl

/-- severity of the notes one probe adds: 2 = a failure, 1 = a warning only, 0 = nothing -/
def sev (fw : List Str × List Str) : Nat := if fw.1 ≠ [] then 2 else if fw.2 ≠ [] then 1 else 0

theorem sev_plain (c : Cfg) (name caType : Str) (size caSize hG hW : Nat) (hS : Str)
    (hl : limits c name = (hG, hW, hS)) (hpos : 0 < size ∨ 0 < caSize) :
    sev (comments c name false size caType caSize) =
      if (size < hW ∧ size < hG ∧ name ≠ tDss) ∨ Text.startsWith caType pEcdsa = true then 2
      else if size < hG ∧ name ≠ tDss then 1 else 0 := by
  rw [comments_plain c name caType size caSize hG hW hS hl hpos]
  unfold sev
  -- a note is there exactly when its condition holds; what is left is propositional
  simp only [ne_eq, List.append_eq_nil_iff, ite_singleton_eq_nil]
  grind

theorem sev_cert (c : Cfg) (name caType : Str) (size caSize hG hW cG cW : Nat) (hS cS : Str)
    (hl : limits c name = (hG, hW, hS)) (cl : limits c caType = (cG, cW, cS)) (hpos : 0 < size ∨ 0 < caSize) :
    sev (comments c name true size caType caSize) =
      if size < hW ∨ (0 < caSize ∧ caSize < cW) ∨ Text.startsWith caType pEcdsa = true then 2
      else if size < hG ∨ (0 < caSize ∧ caSize < cG) then 1 else 0 := by
  rw [comments_cert c name caType size caSize hG hW cG cW hS cS hl cl hpos]
  unfold sev
  simp only [ne_eq, List.append_eq_nil_iff, ite_singleton_eq_nil]
  -- a failure limit is at most its warning limit (`limits_le_of_eq`): "no note" is "at least the warning limit"
  have hhost : size < hW → size < hG := fun h => Nat.lt_of_lt_of_le h (limits_le_of_eq hl)
  have hca : caSize < cW → caSize < cG := fun h => Nat.lt_of_lt_of_le h (limits_le_of_eq cl)
  grind

theorem sev_plain_antitone (c : Cfg) (name caType : Str) (caSize s₁ s₂ : Nat) (h1 : 0 < s₁ ∨ 0 < caSize) (h : s₁ ≤ s₂) :
    sev (comments c name false s₂ caType caSize) ≤ sev (comments c name false s₁ caType caSize) := by
  rcases hl : limits c name with ⟨hG, hW, hS⟩
  rw [sev_plain c name caType s₁ caSize _ _ _ hl h1, sev_plain c name caType s₂ caSize _ _ _ hl (by omega)]
  -- every failing or warning condition on the key is `size < limit`: true of the larger key only if true of the smaller
  grind

theorem sev_cert_antitone (c : Cfg) (name caType : Str) (size c₁ c₂ : Nat) (h1 : 0 < c₁) (h : c₁ ≤ c₂) :
    sev (comments c name true size caType c₂) ≤ sev (comments c name true size caType c₁) := by
  rcases hl : limits c name with ⟨hG, hW, hS⟩
  rcases cl : limits c caType with ⟨cG, cW, cS⟩
  rw [sev_cert c name caType size c₁ _ _ _ _ _ _ hl cl (Or.inr h1), sev_cert c name caType size c₂ _ _ _ _ _ _ hl cl (Or.inr (by omega))]
  -- every failing or warning condition on the CA key is `0 < c ∧ c < limit`: true of the larger key only if true of the smaller
  grind

/-- plain (non-certificate) host keys with RSA limits, in particular the RSA family: below 2048 one failure
    `using small N-bit modulus`; from 2048 up to but excluding 3072 the 2048-bit warning and no failure; from 3072 nothing -/
theorem rsa_thresholds (c : Cfg) (name : Str) (hecc : isEcc name = false) (hdss : name ≠ tDss) (size : Nat) (hpos : 0 < size) :
    comments c name false size [] 0 =
      if size < 2048 then ([smallText size], []) else if size < 3072 then ([], [c.two2k]) else ([], []) := by
  rw [comments_plain c name [] size 0 _ _ _ (limits_of_not_ecc c name hecc) (Or.inl hpos)]
  simp only [not_ecdsa_nil, hdss, ne_eq, not_false_eq_true, and_true, Bool.false_eq_true, if_false, List.append_nil]
  -- with the limits 2048 ≤ 3072 the two `if`s of the closed form are the two of the statement
  grind

theorem rsa_family_limits : ∀ n ∈ cfg.rsaFamily, isEcc n = false ∧ n ≠ tDss := by decide +kernel

/-- the added notes do not depend on which family member was probed -/
theorem family_notes_by_size (name : Str) (hn : name ∈ cfg.rsaFamily) (size : Nat) (hpos : 0 < size) :
    comments cfg name false size [] 0 =
      if size < 2048 then ([smallText size], []) else if size < 3072 then ([], [cfg.two2k]) else ([], []) := by
  obtain ⟨h1, h2⟩ := rsa_family_limits name hn
  exact rsa_thresholds cfg name h1 h2 size hpos

/-- the three clauses for the RSA family of /repo, as severities -/
theorem rsa_family_severity (name : Str) (hn : name ∈ cfg.rsaFamily) (size : Nat) (hpos : 0 < size) :
    sev (comments cfg name false size [] 0) = if size < 2048 then 2 else if size < 3072 then 1 else 0 := by
  rw [family_notes_by_size name hn size hpos, apply_ite sev, apply_ite sev]
  rfl

/-- **the rating never gets worse as a key grows** (measured sizes).  `hn` is not used: it names the scope of the property, the
    conclusion holds for every type name. -/
theorem rating_antitone (name : Str) (hn : name ∈ cfg.rsaFamily) (s₁ s₂ : Nat) (h1 : 0 < s₁) (h : s₁ ≤ s₂) :
    sev (comments cfg name false s₂ [] 0) ≤ sev (comments cfg name false s₁ [] 0) :=
  sev_plain_antitone cfg name [] 0 s₁ s₂ (Or.inl h1) h

/-- the same for the presented moduli, through their bit lengths -/
theorem rating_antitone_keys (name : Str) (hn : name ∈ cfg.rsaFamily) (n₁ n₂ : Nat) (h1 : 0 < n₁) (h : n₁ ≤ n₂) :
    sev (comments cfg name false (bitLen n₂) [] 0) ≤ sev (comments cfg name false (bitLen n₁) [] 0) :=
  rating_antitone name hn _ _ (bitLen_pos_of_pos n₁ h1) (bitLen_mono n₁ n₂ h)

/-- certificates with RSA limits on both keys (RSA host certificates signed by an RSA-family CA): a certified key or CA key
    below 2048 bits is a failure naming the key and its size; one from 2048 up to but excluding 3072 is the 2048-bit warning
    (once); from 3072 nothing.  `caSize = 0` = no CA key was found. -/
theorem cert_thresholds (c : Cfg) (name caType : Str) (hn : isEcc name = false) (hc : isEcc caType = false) (size caSize : Nat)
    (hpos : 0 < size ∨ 0 < caSize) :
    comments c name true size caType caSize =
      ((if size < 2048 then [smallHostText size] else []) ++ (if 0 < caSize ∧ caSize < 2048 then [smallCaText caSize] else []),
       if (2048 ≤ size ∧ size < 3072) ∨ (2048 ≤ caSize ∧ caSize < 3072) then [c.two2k] else []) := by
  rw [comments_cert c name caType size caSize _ _ _ _ _ _ (limits_of_not_ecc c name hn) (limits_of_not_ecc c caType hc) hpos]
  simp only [not_ecdsa_of_not_ecc caType hc, Bool.false_eq_true, if_false, List.append_nil]
  -- both keys have the limits 2048 ≤ 3072 and one warning text: the second warning is dropped exactly when the first is there
  refine Prod.ext rfl ?_
  grind

/-- Ed25519 host certificates signed by an RSA-family CA: the 256-bit certified key adds nothing; the CA key is rated by the RSA limits -/
theorem edcert_ca_thresholds (c : Cfg) (name caType : Str) (hn : isEcc name = true) (hc : isEcc caType = false) (size caSize : Nat)
    (hsz : 256 ≤ size) :
    comments c name true size caType caSize =
      (if 0 < caSize ∧ caSize < 2048 then [smallCaText caSize] else [],
       if 2048 ≤ caSize ∧ caSize < 3072 then [c.two2k] else []) := by
  rw [comments_cert c name caType size caSize _ _ _ _ _ _ (limits_of_ecc c name hn) (limits_of_not_ecc c caType hc) (Or.inl (by omega))]
  simp only [not_ecdsa_of_not_ecc caType hc, Bool.false_eq_true, if_false, List.append_nil]
  -- `256 ≤ size` is above both limits of the certified key (224, 256): its two `if`s are false and only the CA part is left
  grind

theorem cert_names_limits :
    ∀ n ∈ [Spec.rsaCertKind, s "rsa-sha2-256-cert-v01@openssh.com", s "rsa-sha2-512-cert-v01@openssh.com"], isEcc n = false := by
  simp only [isEcc, Spec.rsaCertKind, pEd, pEcdsa, s]
  decode_literals
  decide +kernel

/-- the CA-key rating never gets worse as the CA key grows, for any fixed certified key.  `hn`, `hc` (RSA limits) are not used:
    they name the scope of the property. -/
theorem ca_rating_antitone (c : Cfg) (name caType : Str) (hn : isEcc name = false) (hc : isEcc caType = false) (size c₁ c₂ : Nat)
    (h1 : 0 < c₁) (h : c₁ ≤ c₂) :
    sev (comments c name true size caType c₂) ≤ sev (comments c name true size caType c₁) :=
  sev_cert_antitone c name caType size c₁ c₂ h1 h

section fanout
variable {σ : Type}

/-- a database entry after `d[1].extend(fails); d[2].extend(warns)` -/
def edited (fw : List Str × List Str) (e : Entry) : Entry := { e with desc := extendDesc fw.1 fw.2 e.desc }

/-- the three family types come first in `HOST_KEY_TYPES`, are not certificate types and are exactly `RSA_FAMILY` -/
theorem table_facts :
    (∀ t ∈ cfg.types.take 3, cfg.rsaFamily.contains t.name = true ∧ t.cert = false) ∧
    (∀ t ∈ cfg.types.drop 3, cfg.rsaFamily.contains t.name = false) ∧
    cfg.rsaFamily.Nodup ∧ (cfg.types.take 3).map (·.name) = cfg.rsaFamily := by decide +kernel

/-- every type `perform_test` can probe has an entry in the rating database of /repo: the `KeyError` of the edit is unreachable -/
theorem types_in_db : ∀ t ∈ cfg.types, (DBm.lookup Gen.ssh2db Report.keyC t.name).isSome = true := by
  have h : ∀ t ∈ cfg.types, t.name ∈ DBm.keys Gen.ssh2db Report.keyC := by decide +kernel
  exact fun t ht => Option.isSome_iff_exists.mpr ((DBm.mem_keys_iff _ _ _).mp (h t ht))

theorem family_prefix (c : Cfg) (srv : σ → Str → Outcome × σ) (keys : List Str) (pre post : List HostKeyType) (t : HostKeyType) (st : St σ)
    (hfam : ∀ u ∈ pre ++ t :: post, c.rsaFamily.contains u.name = true ∧ u.cert = false)
    (hpre : ∀ u ∈ pre, keys.contains u.name = false) (ha : Active keys st t)
    (o : Outcome) (s' : σ) (r : HKRec) (db' : DB) (hs : srv st.srv t.name = (o, s')) (hr : probeResult o = .got r)
    (he : editAll st.db c.rsaFamily (comments c t.name false r.info.size r.info.caType r.info.caSize).1
            (comments c t.name false r.info.size r.info.caType r.info.caSize).2 = some db') :
    (pre ++ t :: post).foldl (step c srv keys) st =
      { st with srv := s', probes := st.probes ++ [t.name],
                hostKeys := recordProbe c.rsaFamily t r st.hostKeys, db := db', parsed := st.parsed ++ c.rsaFamily } := by
  have ht' := hfam t (by simp)
  rw [List.foldl_append, foldl_of_not_active c srv keys pre st (fun u hu => not_active_of_not_offered (hpre u hu)), List.foldl_cons,
    step_of_active c srv keys st t ha]
  simp only [hs, hr, ht'.1, ht'.2, if_true, he]
  -- the whole family now counts as parsed
  refine foldl_of_not_active c srv keys post _ (fun u hu => not_active_of_parsed ?_)
  have := (hfam u (by simp [hu])).1
  simp only [List.contains_eq_mem, List.mem_append, decide_eq_true_eq] at this ⊢
  exact Or.inr this

/-- Whatever the host-key list and the server are: if `t` is the first family member of the table that the list offers and the server
    answers its probe, then that is the only probe connection made for the whole family, all three family names get the same record
    (size, CA details, blob) and all three database entries receive the same additional notes. -/
theorem family_fanout (srv : σ → Str → Outcome × σ) (s0 : σ) (db : DB) (kex keys : List Str)
    (hkex : kex.any (fun k => cfg.kexGroups.contains k) = true)
    (hdb : ∀ n ∈ cfg.rsaFamily, (DBm.lookup db Report.keyC n).isSome = true)
    (pre post : List HostKeyType) (t : HostKeyType) (hsplit : cfg.types.take 3 = pre ++ t :: post)
    (hpre : ∀ u ∈ pre, keys.contains u.name = false) (ht : keys.contains t.name = true)
    (o : Outcome) (s1 : σ) (r : HKRec) (hs : srv s0 t.name = (o, s1)) (hr : probeResult o = .got r) :
    (run cfg srv s0 db kex keys).probes.filter (fun p => cfg.rsaFamily.contains p) = [t.name] ∧
    (∀ n ∈ cfg.rsaFamily, dictGet (run cfg srv s0 db kex keys).hostKeys n = some r) ∧
    (∀ n ∈ cfg.rsaFamily, DBm.lookup (run cfg srv s0 db kex keys).db Report.keyC n =
        (DBm.lookup db Report.keyC n).map (edited (comments cfg t.name false r.info.size r.info.caType r.info.caSize))) := by
  obtain ⟨f1, f2, f3, _⟩ := table_facts
  obtain ⟨db', he⟩ := editAll_isSome cfg.rsaFamily db (comments cfg t.name false r.info.size r.info.caType r.info.caSize).1
    (comments cfg t.name false r.info.size r.info.caType r.info.caSize).2 hdb
  have hfam : ∀ u ∈ pre ++ t :: post, cfg.rsaFamily.contains u.name = true ∧ u.cert = false := by rw [← hsplit]; exact f1
  have ht' := hfam t (by simp)
  have hpfx := family_prefix cfg srv keys pre post t (initSt s0 db) hfam hpre ⟨rfl, rfl, ht⟩ o s1 r db' hs hr he
  have hview := famView_run cfg srv keys 3 s0 db kex hkex f2
  rw [hsplit, hpfx] at hview
  obtain ⟨v1, v2, v3⟩ := famView_eq cfg _ _ hview
  dsimp only at v1 v2 v3
  refine ⟨?_, ?_, ?_⟩
  · rw [v3]
    simp [initSt, show t.name ∈ cfg.rsaFamily by simpa using ht'.1]
  · intro n hn
    rw [v1 n hn]
    exact dictGet_recordProbe (hk := []) List.nodup_nil ht'.2 ht'.1 (fun _ _ h => by cases h) hn
  · intro n hn
    rw [v2 n hn, lookup_editAll cfg.rsaFamily f3 db db' _ _ he n, if_pos hn]
    rfl

/-- such a `t` exists whenever the list offers a family name: `family_fanout` covers every choice and order of the family's names -/
theorem family_first_offered (keys : List Str) (h : ∃ n ∈ cfg.rsaFamily, n ∈ keys) :
    ∃ pre t post, cfg.types.take 3 = pre ++ t :: post ∧ (∀ u ∈ pre, keys.contains u.name = false) ∧ keys.contains t.name = true := by
  obtain ⟨_, _, _, f4⟩ := table_facts
  obtain ⟨n, hn, hk⟩ := h
  rw [← f4, List.mem_map] at hn
  obtain ⟨u, hu, hun⟩ := hn
  have hsome : ((cfg.types.take 3).find? (fun t => keys.contains t.name)).isSome = true :=
    List.find?_isSome.mpr ⟨u, hu, by simp [hun, hk]⟩
  obtain ⟨t, hf⟩ := Option.isSome_iff_exists.mp hsome
  obtain ⟨hpt, pre, post, hsp, hall⟩ := List.find?_eq_some_iff_append.mp hf
  exact ⟨pre, t, post, hsp, fun u hu => by simpa using hall u hu, hpt⟩

/-- when no family name is offered: no family probe, no family record, the family's entries untouched -/
theorem family_not_offered (srv : σ → Str → Outcome × σ) (s0 : σ) (db : DB) (kex keys : List Str)
    (h : ∀ n ∈ cfg.rsaFamily, keys.contains n = false) :
    (run cfg srv s0 db kex keys).probes.filter (fun p => cfg.rsaFamily.contains p) = [] ∧
    (∀ n ∈ cfg.rsaFamily, dictGet (run cfg srv s0 db kex keys).hostKeys n = none) ∧
    (∀ n ∈ cfg.rsaFamily, DBm.lookup (run cfg srv s0 db kex keys).db Report.keyC n = DBm.lookup db Report.keyC n) := by
  obtain ⟨_, f2, _, f4⟩ := table_facts
  have hview : famView cfg (run cfg srv s0 db kex keys) = famView cfg (initSt s0 db) := by
    by_cases hkex : kex.any (fun x => cfg.kexGroups.contains x) = true
    · rw [famView_run cfg srv keys 3 s0 db kex hkex f2, foldl_of_not_active cfg srv keys (cfg.types.take 3) _
        (fun t ht => not_active_of_not_offered (h _ (f4 ▸ List.mem_map_of_mem ht)))]
    · unfold run
      rw [if_neg hkex]
  obtain ⟨v1, v2, v3⟩ := famView_eq cfg _ _ hview
  refine ⟨by rw [v3]; rfl, fun n hn => ?_, fun n hn => ?_⟩
  · rw [v1 n hn]; rfl
  · rw [v2 n hn]; rfl

end fanout

/-- every member with the record `r` of a plain key is shown as `name (N-bit)` with the same `N` -/
theorem family_shown (hk : List (Str × HKRec)) (r : HKRec) (n : Str) (hn : n ∈ cfg.rsaFamily) (hr : dictGet hk n = some r)
    (hplain : r.info.caSize = 0) (dh : List (Str × Nat)) :
    Report.shownName cfg.rsaFamily Report.keyC n (toReport hk) dh = n ++ Report.s " (" ++ Text.natToStr r.info.size ++ Report.s "-bit)" := by
  obtain ⟨e, hf, rfl⟩ := Option.map_eq_some_iff.mp hr
  have hc : ¬ (Report.keyC = Report.kexC) := by decide +kernel
  have hcont : cfg.rsaFamily.contains n = true := by simpa using hn
  rw [Report.shownName, if_neg hc, if_pos rfl, find_toReport, hf]
  simp only [Option.map_some, hplain, Nat.lt_irrefl, and_false, if_false, hcont, if_true, gt_iff_lt]

theorem edited_notes (fw : List Str × List Str) (e : Entry) :
    Report.rawTexts (edited fw e) =
      Report.notesOf .fail (DBm.slot e 1) ++ fw.1.map (fun t => ({ level := .fail, text := t } : Report.Note)) ++
      (Report.notesOf .warn (DBm.slot e 2) ++ fw.2.map (fun t => ({ level := .warn, text := t } : Report.Note))) ++
      Report.sinceNote e ++ Report.notesOf .info (DBm.slot e 3) := by
  unfold Report.rawTexts Report.sinceNote DBm.versions
  simp only [DBm.slot, edited, getD_extendDesc, if_true, Nat.reduceEqDiff, if_false, Report.notesOf_append, Report.notesOf_map_some]

/-- **every advertised member shows the same size and the same size notes**: under the hypotheses of `family_fanout`, for a plain key
    each family name `n` is rendered as `n (N-bit)` with the one measured `N`, and its entry prints its own old notes plus the same
    added ones -/
theorem family_uniform_report {σ : Type} (srv : σ → Str → Outcome × σ) (s0 : σ) (db : DB) (kex keys : List Str)
    (hkex : kex.any (fun k => cfg.kexGroups.contains k) = true)
    (hdb : ∀ n ∈ cfg.rsaFamily, (DBm.lookup db Report.keyC n).isSome = true)
    (pre post : List HostKeyType) (t : HostKeyType) (hsplit : cfg.types.take 3 = pre ++ t :: post)
    (hpre : ∀ u ∈ pre, keys.contains u.name = false) (ht : keys.contains t.name = true)
    (o : Outcome) (s1 : σ) (r : HKRec) (hs : srv s0 t.name = (o, s1)) (hr : probeResult o = .got r) (hplain : r.info.caSize = 0)
    (dh : List (Str × Nat)) (n : Str) (hn : n ∈ cfg.rsaFamily) (e : Entry) (he : DBm.lookup db Report.keyC n = some e) :
    Report.shownName cfg.rsaFamily Report.keyC n (toReport (run cfg srv s0 db kex keys).hostKeys) dh =
        n ++ Report.s " (" ++ Text.natToStr r.info.size ++ Report.s "-bit)" ∧
    ∃ e', DBm.lookup (run cfg srv s0 db kex keys).db Report.keyC n = some e' ∧
      Report.rawTexts e' =
        Report.notesOf .fail (DBm.slot e 1) ++
          (comments cfg t.name false r.info.size r.info.caType r.info.caSize).1.map (fun x => ({ level := .fail, text := x } : Report.Note)) ++
        (Report.notesOf .warn (DBm.slot e 2) ++
          (comments cfg t.name false r.info.size r.info.caType r.info.caSize).2.map (fun x => ({ level := .warn, text := x } : Report.Note))) ++
        Report.sinceNote e ++ Report.notesOf .info (DBm.slot e 3) := by
  obtain ⟨_, h2, h3⟩ := family_fanout srv s0 db kex keys hkex hdb pre post t hsplit hpre ht o s1 r hs hr
  refine ⟨family_shown _ r n hn (h2 n hn) hplain dh, edited _ e, ?_, edited_notes _ e⟩
  rw [h3 n hn, he]; rfl

/-- **the bytes that are hashed are the presented blob**: for every reply payload the recorded `raw_hostkey_bytes` is the first
    string (`K_S`) of the payload -/
theorem fingerprint_source (payload : Bytes) (r : HKRec) (h : measured payload = some r) :
    ∃ n rest, getBytes payload = .ok (r.raw, n, rest) := by
  unfold measured at h
  simp only [probeResult] at h
  cases hr : recvReply payload with
  | error e => rw [hr] at h; cases h
  | ok v =>
    rw [hr] at h
    cases h
    exact recvReply_ok hr

/-- every text fingerprint entry has a non-certificate label, the only RSA-family label is `ssh-rsa`, the hashed bytes
    are those of a recorded host key with that label, and no label occurs twice -/
theorem fingerprint_labels (hk : List (Str × HKRec)) :
    (∀ p ∈ textFps cfg.rsaFamily hk, isCert p.1 = false ∧ (cfg.rsaFamily.contains p.1 = true → p.1 = tRsa) ∧
        ∃ e ∈ hk, fpLabel cfg.rsaFamily e.1 = p.1 ∧ e.2.raw = p.2) ∧
    ((textFps cfg.rsaFamily hk).map (·.1)).Nodup := by
  refine ⟨?_, Text.nodup_of_pairwise_lt (f := id) (by rw [List.map_id]; exact sorted_textFps _ hk)⟩
  intro p hp
  rw [mem_textFps] at hp
  obtain ⟨hc, e, he, hl, hr⟩ := textFpDict_sound cfg.rsaFamily hk p.1 p.2 hp
  refine ⟨hc, ?_, e, he, hl, hr⟩
  intro hfam
  rw [← hl] at hfam ⊢
  unfold fpLabel at hfam ⊢
  split
  · rfl
  · next hn => rw [if_neg hn] at hfam; exact absurd hfam hn

/-- every recorded non-certificate host key is represented in the text list under its label -/
theorem fingerprint_complete (hk : List (Str × HKRec)) (e : Str × HKRec) (he : e ∈ hk) (hc : isCert (fpLabel cfg.rsaFamily e.1) = false) :
    ∃ raw, (fpLabel cfg.rsaFamily e.1, raw) ∈ textFps cfg.rsaFamily hk := by
  obtain ⟨raw, h⟩ := mem_keysOf.mp (textFpDict_complete cfg.rsaFamily hk e he hc)
  exact ⟨raw, (mem_textFps _ hk _).mpr h⟩

/-- **text and JSON list the same entries**, label by label and byte for byte, whenever records that share a label share their bytes
    (after a scan the three RSA-family records are copies of one record: `family_fanout`) -/
theorem fingerprints_text_eq_json (hk : List (Str × HKRec)) (hn : (keysOf hk).Nodup) (hd : LabelDet cfg.rsaFamily hk) :
    textFps cfg.rsaFamily hk = jsonFps cfg.rsaFamily hk := textFps_eq_jsonFps _ hk hn hd

/-- **after every scan** — any server state machine, any key-exchange and host-key lists — the text report and the JSON document
    list the same fingerprint entries: same labels, same hashed bytes, same order -/
theorem run_fingerprints_agree {σ : Type} (srv : σ → Str → Outcome × σ) (s0 : σ) (db : DB) (kex keys : List Str) :
    textFps cfg.rsaFamily (run cfg srv s0 db kex keys).hostKeys = jsonFps cfg.rsaFamily (run cfg srv s0 db kex keys).hostKeys := by
  obtain ⟨h1, h2, _⟩ := run_inv cfg srv s0 db kex keys
  exact fingerprints_text_eq_json _ h1 (labelDet_of_famSame _ _ (by decide +kernel) h1 h2)

/-- after every scan the host-key types recorded are distinct, with one shared record for the RSA family -/
theorem run_records {σ : Type} (srv : σ → Str → Outcome × σ) (s0 : σ) (db : DB) (kex keys : List Str) :
    (keysOf (run cfg srv s0 db kex keys).hostKeys).Nodup ∧ FamSame cfg.rsaFamily (run cfg srv s0 db kex keys).hostKeys := by
  obtain ⟨h1, h2, _⟩ := run_inv cfg srv s0 db kex keys
  exact ⟨h1, h2⟩

/-- without that hypothesis the two views can differ: `build_struct` lets the *last non-`ssh-rsa`* family record win, the text report the last one -/
theorem fingerprints_differ_witness :
    textFps cfg.rsaFamily [(s "rsa-sha2-256", ⟨[1], ⟨0, [], 0⟩⟩), (s "ssh-rsa", ⟨[2], ⟨0, [], 0⟩⟩)] = [(tRsa, [2])] ∧
    jsonFps cfg.rsaFamily [(s "rsa-sha2-256", ⟨[1], ⟨0, [], 0⟩⟩), (s "ssh-rsa", ⟨[2], ⟨0, [], 0⟩⟩)] = [(tRsa, [1])] := by decide +kernel

/-- the printed lines: the JSON array is the verbose text list with the `SHA256:` / `MD5:` prefixes cut off -/
theorem fingerprint_lines_agree (h256 hmd5 : Bytes → Bytes) (hk : List (Str × HKRec)) (hn : (keysOf hk).Nodup) (hd : LabelDet cfg.rsaFamily hk) :
    jsonFpEntries h256 hmd5 cfg.rsaFamily hk =
      (textFpLines h256 hmd5 cfg.rsaFamily true hk).map (fun l => (l.1, l.2.1, l.2.2.drop (l.2.1.length + 1))) := by
  unfold jsonFpEntries textFpLines
  have hall : (textFps cfg.rsaFamily hk).filter (fun e => fpShown true e.1) = textFps cfg.rsaFamily hk :=
    List.filter_eq_self.mpr fun _ _ => rfl
  rw [← fingerprints_text_eq_json hk hn hd, hall, List.map_flatMap]
  rfl

/-- unpadded base64 (RFC 4648 §3.2): the encoder without the `=` fill -/
def b64NoPad : Bytes → Str
  | a :: b :: c :: rest =>
    let n := a.toNat * 65536 + b.toNat * 256 + c.toNat
    b64Char (n / 262144) :: b64Char (n / 4096) :: b64Char (n / 64) :: b64Char n :: b64NoPad rest
  | [a, b] =>
    let n := a.toNat * 65536 + b.toNat * 256
    [b64Char (n / 262144), b64Char (n / 4096), b64Char (n / 64)]
  | [a] =>
    let n := a.toNat * 65536
    [b64Char (n / 262144), b64Char (n / 4096)]
  | [] => []

theorem b64Char_ne_eq (n : Nat) : b64Char n ≠ '=' := by
  have h : ∀ c ∈ b64Alphabet, c ≠ '=' := by
    unfold b64Alphabet
    decode_literals
    decide +kernel
  -- `getD` gives a member of the alphabet or the default `'A'`
  rw [b64Char, List.getD_eq_getElem?_getD]
  cases hi : b64Alphabet[n % 64]? with
  | none => decide
  | some c => exact h c (List.mem_of_getElem? hi)

theorem b64NoPad_no_eq (d : Bytes) : ∀ c ∈ b64NoPad d, c ≠ '=' := by
  fun_induction b64NoPad d with
  | case1 a b c rest n ih =>
    simp only [List.forall_mem_cons, b64Char_ne_eq, ne_eq, not_false_eq_true, true_and]
    exact ih
  | case2 | case3 | case4 =>
    simp only [List.forall_mem_cons, b64Char_ne_eq, ne_eq, not_false_eq_true, true_and, List.not_mem_nil, false_imp_iff, implies_true]

theorem b64_eq_pad (d : Bytes) : ∃ k, b64 d = b64NoPad d ++ List.replicate k '=' := by
  induction d using b64NoPad.induct with
  | case1 a b c rest ih =>
    obtain ⟨k, hk⟩ := ih
    exact ⟨k, by simp only [b64, b64NoPad, hk, List.cons_append]⟩
  | case2 a b => exact ⟨1, rfl⟩
  | case3 a => exact ⟨2, rfl⟩
  | case4 => exact ⟨0, rfl⟩

/-- `SHA256:` + unpadded base64 of the digest, whatever its length: `rstrip('=')` removes exactly the fill characters -/
theorem sha256_format (digest : Bytes) : sha256Text digest = s "SHA256:" ++ b64NoPad digest := by
  unfold sha256Text
  obtain ⟨k, hk⟩ := b64_eq_pad digest
  rw [hk, rstripEq_pad _ k (b64NoPad_no_eq digest)]

/-- `MD5:` + colon-separated byte pairs, each the two lower-case hexadecimal digits of the byte -/
theorem md5_format (digest : Bytes) : md5Text digest = s "MD5:" ++ Text.join [':'] (digest.map hexByte) := rfl

theorem hexByte_digits : ∀ n, n < 256 →
    hexByte (UInt8.ofNat n) = ["0123456789abcdef".toList.getD (n / 16) '0', "0123456789abcdef".toList.getD (n % 16) '0'] := by
  intro n h
  -- a byte is its number, and `n / 16` is already a digit
  rw [hexByte, hexDigit, hexDigit, UInt8.toNat_ofNat_of_lt' h, Nat.mod_eq_of_lt (show n / 16 < 16 by omega)]

/-- **an RSA host key is reported and rated by the bit length of its modulus**, not by the byte length of its encoding (C11-F1),
    for every modulus and under whichever RSA-family name it is probed -/
theorem rating_by_true_bits (name : Str) (hname : name ∈ cfg.rsaFamily) (e n : Nat) (f sig : Bytes) (he : 0 < e) (hn : 0 < n)
    (hel : bitLen e / 8 + 1 < 2 ^ 32) (hnl : bitLen n / 8 + 1 < 2 ^ 32) (hb : (Spec.rsaBlob e n).length < 2 ^ 32)
    (hf : f.length < 2 ^ 32) (hs : sig.length < 2 ^ 32) :
    ∃ r, measured (Spec.kexReply (Spec.rsaBlob e n) f sig) = some r ∧ r.raw = Spec.rsaBlob e n ∧ r.info.size = bitLen n ∧
      comments cfg name false r.info.size r.info.caType r.info.caSize =
        if bitLen n < 2048 then ([smallText (bitLen n)], []) else if bitLen n < 3072 then ([], [cfg.two2k]) else ([], []) :=
  ⟨_, rsa_size_general e n f sig he hn hel hnl hb hf hs, rfl, rfl, family_notes_by_size name hname _ (bitLen_pos_of_pos n hn)⟩

/-- so are the certified key and the CA key of an RSA host certificate signed by an RSA CA -/
theorem cert_rating_by_true_bits (name : Str)
    (hname : name ∈ [Spec.rsaCertKind, s "rsa-sha2-256-cert-v01@openssh.com", s "rsa-sha2-512-cert-v01@openssh.com"])
    (e n e' n' : Nat) (f : Spec.CertFields) (kf sig : Bytes) (hh : (HostPub.rsa e n).ok) (hc : (CaKey.rsa e' n').ok) (hf : f.fits) (hnn : f.nonce ≠ [])
    (hcl : (CaKey.rsa e' n').blob.length < 2 ^ 32) (hb : ((HostPub.rsa e n).cert 2 f (CaKey.rsa e' n').blob).length < 2 ^ 32)
    (hkf : kf.length < 2 ^ 32) (hs : sig.length < 2 ^ 32) :
    ∃ r, measured (Spec.kexReply ((HostPub.rsa e n).cert 2 f (CaKey.rsa e' n').blob) kf sig) = some r ∧
      r.info.size = bitLen n ∧ r.info.caSize = bitLen n' ∧
      comments cfg name true r.info.size r.info.caType r.info.caSize =
        ((if bitLen n < 2048 then [smallHostText (bitLen n)] else []) ++ (if 0 < bitLen n' ∧ bitLen n' < 2048 then [smallCaText (bitLen n')] else []),
         if (2048 ≤ bitLen n ∧ bitLen n < 3072) ∨ (2048 ≤ bitLen n' ∧ bitLen n' < 3072) then [cfg.two2k] else []) := by
  refine ⟨_, cert_sizes (.rsa e n) (.rsa e' n') f kf sig hh hc hf hnn hcl hb hkf hs, rfl, rfl, ?_⟩
  have h1 : isEcc name = false := cert_names_limits name hname
  have h2 : isEcc tRsa = false := (rsa_family_limits tRsa (by decide +kernel)).1
  exact cert_thresholds cfg name tRsa h1 h2 _ _ (Or.inl (bitLen_pos_of_pos n hh.2.1))

/-- a 2047-bit key is a failure naming 2047 bits (by the byte length of its encoding it would pass for 2048-bit and only warn: C11-F1) -/
theorem repaired_witness :
    bitLen (2 ^ 2046) = 2047 ∧ comments cfg tRsa false (bitLen (2 ^ 2046)) [] 0 = ([s "using small 2047-bit modulus"], []) := by
  unfold tRsa s
  decode_literals
  decide +kernel

/-- `ssh-ed448` is rated with the RSA limits: `using small 448-bit modulus` (observation D24, not an RSA-family clause) -/
theorem ed448_rated_small : comments cfg tEd448 false 448 [] 0 = ([smallText 448], []) := by
  -- the name has neither elliptic-curve prefix
  have h : isEcc tEd448 = false ∧ tEd448 ≠ tDss := by
    unfold isEcc tEd448 pEd pEcdsa tDss s
    decode_literals
    decide +kernel
  rw [rsa_thresholds cfg tEd448 h.1 h.2 448 (by decide), if_pos (by decide)]

example : measured (Spec.kexReply (Spec.rsaBlob 65537 (2 ^ 1023 + 1)) [0, 0, 0, 1, 5] [1, 2]) =
    some { raw := Spec.rsaBlob 65537 (2 ^ 1023 + 1), info := { size := 1024, caType := [], caSize := 0 } } := by
  -- the digits of the numbers by position: `toBE` itself appends each digit at the end
  simp only [Spec.rsaBlob, Spec.mpint, toBE_eq_map]
  decide +kernel
example : (measured (Spec.kexReply (Spec.rsaBlob 3 (2 ^ 2046 + 1)) [] [])).map (·.info.size) = some 2047 := by
  simp only [Spec.rsaBlob, Spec.mpint, toBE_eq_map]
  decide +kernel
example : (measured (Spec.kexReply (Spec.edCert (List.replicate 32 7) 2 ⟨List.replicate 32 9, 1, [104], [], 0, 5, [], [], [], [1]⟩
      (Spec.ecdsaBlob (s "nistp521") (List.replicate 66 1) (List.replicate 66 2))) [3] [4])).map (·.info) =
    some { size := 256, caType := s "ecdsa-sha2-nistp521", caSize := 528 } := by
  unfold Spec.edCert Spec.edCertKind Spec.ecdsaBlob s
  decode_literals
  decide +kernel
example : comments cfg tRsa false 1024 [] 0 = ([s "using small 1024-bit modulus"], []) := by
  unfold tRsa s
  decode_literals
  decide +kernel
example : comments cfg Spec.rsaCertKind true 4096 tRsa 1024 = ([s "using small 1024-bit CA key modulus"], []) := by
  unfold Spec.rsaCertKind tRsa s
  decode_literals
  decide +kernel
example : sha256Text [0, 255, 16] = s "SHA256:AP8Q" ∧ sha256Text [251] = s "SHA256:+w" ∧ md5Text [10, 11, 255] = s "MD5:0a:0b:ff" := by
  unfold sha256Text b64 b64Char b64Alphabet s
  decode_literals
  decide +kernel

end SshAudit.C11
