/-
  Regenerated logic against the hand-written model, unit `LogicCrc` (C10): the two functions of `ssh1_crc32.py`
  (`SshAudit.Gen.Logic.ssh1_crc32_table`, `ssh1_crc32_calc`, written to `Gen/LogicCrc.lean` by `harness/translate_logic.py`) against
  `Wire.crcTable`, `Wire.crcCalc`.  Neither table is evaluated: the two loops are compared pass by pass.
-/
import SshAudit.Gen.LogicCrc
import SshAudit.Lemmas.Py
import SshAudit.Model.Wire
set_option linter.unusedSimpArgs false
namespace SshAudit.GenLogic
open SshAudit

/-- `SSH1_CRC32.__init__` never raises and leaves exactly the model's table in `self._table`.  The inner loop body — whatever the translator
    produced for it — only has to do, on natural numbers, one `Wire.tableStep` and store the new `crc` at index `i`. -/
theorem ssh1_crc32_table_eq_model : Gen.Logic.ssh1_crc32_table = some (Wire.crcTable.map Int.ofNat) := by
  unfold Gen.Logic.ssh1_crc32_table
  suffices h : ∀ F : Int → Int × Int × List Int → Int → Option (Int × Int × List Int),
      (∀ (i c n : Nat) (t : List Int) (u : Int), i < t.length →
        F i ((c : Int), (n : Int), t) u = some (((Wire.tableStep (c, n)).1 : Int), ((Wire.tableStep (c, n)).2 : Int), t.set i ((Wire.tableStep (c, n)).1 : Int))) →
      (Py.foldlOpt (fun acc i => (Py.foldlOpt (F i) (0, i, acc) (Py.range 8)).bind fun p => some p.2.2) (Py.replicate 256 0) (Py.range 256)).bind some
        = some (Wire.crcTable.map Int.ofNat) by
    apply h
    intro i c n t u hi
    simp only [Py.bxor_natCast, Py.band_lit_r, Py.shiftRight_natCast, Py.mul_lit, Py.setItem_natCast hi, Option.bind_some,
      Nat.and_one_is_mod]
    rfl
  intro F hF
  have inner : ∀ (t : List Int) (i : Nat), i < t.length →
      ((Py.foldlOpt (F i) (0, i, t) (Py.range 8)).bind fun p => some p.2.2) = some (t.set i ((Wire.tableEntry i : Nat) : Int)) := by
    intro t i hi
    have h0 : ((0 : Int), (i : Int), t) = (((0 : Nat) : Int), (i : Int), t) := rfl
    rw [show Py.range 8 = [0, 1, 2, 3, 4, 5, 6, 7] from rfl, h0]
    -- eight passes, each a `tableStep` that writes slot `i` again: `List.set_set` keeps the last write
    simp only [Py.foldlOpt_cons, Py.foldlOpt_nil, hF, hi, List.length_set, Option.bind_some, List.set_set, Prod.eta]
    rfl
  have hlen : (Py.replicate (256 : Int) (0 : Int)).length = 256 := List.length_replicate ..
  -- the outer loop stores `tableEntry i` at `i` for `i = 0 … 255`
  have outer := Py.foldlOpt_set_range (fun acc i => (Py.foldlOpt (F i) (0, i, acc) (Py.range 8)).bind fun p => some p.2.2)
    (fun i => ((Wire.tableEntry i : Nat) : Int)) inner _ 256 hlen
  refine (congrArg (fun o => o.bind some) outer).trans ?_
  simp only [Option.bind_some, Wire.crcTable, List.map_map]
  rfl

theorem table_get (n : Nat) :
    Py.getItem (Wire.crcTable.map Int.ofNat) (n : Int) = if n < 256 then some ((Wire.crcTable.getD n 0 : Nat) : Int) else none :=
  Py.getItem_map_range Wire.tableEntry 256 n

/-- `SSH1_CRC32.calc` never raises (the table index stays below 256) and computes the model's `crcCalc`.  The loop body — whatever the
    translator produced for it — only has to map a non-negative `crc` and a byte to the model's next `crc`; its text is not matched. -/
theorem ssh1_crc32_calc_eq_model (v : Bytes) : Gen.Logic.ssh1_crc32_calc v = some ((Wire.crcCalc v : Nat) : Int) := by
  unfold Gen.Logic.ssh1_crc32_calc
  rw [ssh1_crc32_table_eq_model]
  simp only [Option.bind_some, Py.foldlOpt_range_bytes]
  suffices h : ∀ F : Int → UInt8 → Option Int,
      (∀ (c : Nat) (x : UInt8), F (c : Int) x = some (((c >>> 8) ^^^ Wire.crcTable.getD (x.toNat ^^^ (c % 256)) 0 : Nat) : Int)) →
      (Py.foldlOpt F ((0 : Nat) : Int) v).bind some = some ((Wire.crcCalc v : Nat) : Int) by
    apply h
    intro c x
    have hx : x.toNat < 256 := x.toNat_lt
    simp only [Int.ofNat_eq_natCast, Py.band_lit_r, Py.band_lit_l, Py.bxor_lit_r, Py.bxor_lit_l, Py.mod_lit, Py.div_lit, Py.band_natCast, Py.bxor_natCast,
      Py.shiftRight_natCast, Py.and_255, Py.and_255', table_get]
    have hlt : ∀ a b : Nat, a < 256 → b < 256 → a ^^^ b < 256 := fun a b ha hb => Nat.xor_lt_two_pow (n := 8) ha hb
    have hm : c % 256 < 256 := Nat.mod_lt _ (by decide)
    simp only [hlt, hx, hm, if_true, Option.bind_some, Py.bxor_natCast, Nat.xor_comm (c % 256), Py.shr8]
  intro F hF
  rw [Py.foldlOpt_nat_sim F _ hF]
  rfl

end SshAudit.GenLogic
